/-
  Preservation of verified pieces along the replay of a run's log (C04 at run level).

  `SInv` is the structural part of the invariant (names, inodes, directories); it is kept by every logged
  operation whatsoever. The content part is `Win` (a byte window of one inode still holds what it held at the
  start) for the pieces of the work list (`preserved`), and plain equality of contents for files outside the images
  (`frame`, `foreign_preserved`). Every fact about an operation is `RunJ.OpFact` for some work list and table: those
  of the run (`RunJ.run_opFact`) or their tree-independent forms (`RunR.run_opFact0`).

  `Disj` and `HInj` have the same bodies as `RangesDisjoint` and `HInjOn` of `TB.Props.C04h` (which imports this
  file).
-/
import TB.Spec.ExportSpec
import TB.Lemmas.RunJ
namespace TB.RunK
open TB

def HInj (H : Bytes → Bytes) (work : List Work) : Prop :=
  ∀ w ∈ work, ∀ b b', H b = w.hash → H b' = w.hash → b = b'

def Disj (work : List Work) : Prop :=
  (∀ (a b : Nat) (w v : Work), work[a]? = some w → work[b]? = some v → a ≠ b →
    ∀ s ∈ w.segs, ∀ t ∈ v.segs, s.ent.isPad = false → t.ent.isPad = false → s.ent.fullTarget = t.ent.fullTarget →
      s.off + s.len ≤ t.off ∨ t.off + t.len ≤ s.off) ∧
  (∀ w ∈ work, ∀ (a b : Nat) (s t : WSeg), w.segs[a]? = some s → w.segs[b]? = some t → a ≠ b →
    s.ent.isPad = false → t.ent.isPad = false → s.ent.fullTarget ≠ t.ent.fullTarget)

/-- what holds of the tree `fs` replayed from any list of logged operations on `fs0`: `RunJ.Names`; the directories
    of `fs0` are still directories; no name is both a file and a directory -/
structure SInv (table : List TEntry) (fs0 fs : Fs) : Prop extends RunJ.Names table fs0 fs where
  dk : ∀ q, fs0.isDir q = true → fs.isDir q = true
  nd : ∀ q i, fs.inoOf q = some i → fs.isDir q = false

variable {table : List TEntry} {fs0 : Fs}

theorem SInv.base (hwf : FsWF fs0) (hna : RunJ.NoAl fs0 table) : SInv table fs0 fs0 :=
  ⟨RunJ.Names.base hwf hna, fun _ h => h, fun q i h => hwf.2.2.1 q i (RunF.inoOf_mem h)⟩

theorem applyOp_isDir {fs : Fs} (o : Op) {d : Path} (hd : fs.isDir d = true) : (applyOp fs o).isDir d = true :=
  RunJ.applyOp_cases (Q := fun fs' => fs'.isDir d = true) fs o hd
    (fun _ => (RunF.mkdirs_spec fs o.path).2.2.2.1 d hd) (fun _ _ _ => hd) (fun _ _ _ _ => hd) (fun _ _ _ _ _ => hd)

theorem SInv.step {fs : Fs} (h : SInv table fs0 fs) (o : Op) : SInv table fs0 (applyOp fs o) := by
  refine ⟨h.toNames.step o, fun q hq => applyOp_isDir o (h.dk q hq), ?_⟩
  refine RunJ.applyOp_cases (Q := fun fs' => ∀ q i, fs'.inoOf q = some i → fs'.isDir q = false) fs o h.nd ?_ ?_
    (fun _ _ _ _ => h.nd) (fun _ _ _ _ _ => h.nd)
  · intro _ q i hq
    rw [RunF.inoOf_congr (RunF.mkdirs_spec fs o.path).1] at hq
    exact RunF.mkdirs_isDir_file (h.nd q i hq) (by rw [hq]; exact nofun)
  · intro _ hl _ q i hq
    rw [RunF.isDir_addFile]
    rcases RunF.inoOf_addFile_some hq with ⟨e1, _⟩ | ⟨_, hq'⟩
    · rw [e1]; exact (RunF.look_notFound hl).1
    · exact h.nd q i hq'

theorem SInv.replay (hwf : FsWF fs0) (hna : RunJ.NoAl fs0 table) (ops : List Op) : SInv table fs0 (replay fs0 ops) :=
  replay_ind (F := fun _ => True) (fun _ o _ h => h.step o) ops fs0 (fun _ _ => trivial) (SInv.base hwf hna)

/-- a regular file of the initial (well-formed) tree is still found, under the same inode: its proper prefixes
    were directories and still are, so none of them can have been created as a regular file -/
theorem SInv.look {fs : Fs} (hwf : FsWF fs0) (h : SInv table fs0 fs) {p : Path} {i : Nat}
    (hl : fs0.look p = .file i) : fs.look p = .file i := by
  obtain ⟨_, _, l3⟩ := RunF.look_file hl
  have hi := h.keep p i l3
  apply RunF.look_file_of
  · intro q hq
    have hd : fs.isDir q = true := h.dk q (hwf.2.2.2 p i (RunF.inoOf_mem l3) q hq)
    cases hq' : fs.inoOf q with
    | none => rfl
    | some j =>
      have := h.nd q j hq'
      rw [hd] at this; cases this
  · exact h.nd p i hi
  · exact hi

/-- the content of an inode changes only under a successful `set_len` or write on a name bound to it -/
theorem applyOp_content {Q : Bytes → Prop} {fs : Fs} (o : Op) {i : Nat} (hi : i < fs.next) (same : Q (fs.content i))
    (setlen : ∀ n, o.kind = .setlen n → fs.look o.path = .file i → Q ((fs.setLen i n).content i))
    (write : ∀ off d, o.kind = .write off d → fs.look o.path = .file i → Q ((fs.writeAt i off d).content i)) :
    Q ((applyOp fs o).content i) := by
  refine RunJ.applyOp_cases (Q := fun fs' => Q (fs'.content i)) fs o same ?_ ?_ ?_ ?_
  · intro _
    rw [RunF.content_congr (RunF.mkdirs_spec fs o.path).2.1 i]; exact same
  · intro _ _ _
    rw [RunF.content_addFile fs o.path i (Nat.ne_of_lt hi)]; exact same
  · intro n j hk hl
    by_cases hj : i = j
    · subst hj; exact setlen n hk hl
    · show Q ((fs.setData j _).content i)
      rw [RD.Fs.content_setData_ne _ _ _ _ hj]; exact same
  · intro off d j hk hl
    by_cases hj : i = j
    · subst hj; exact write off d hk hl
    · show Q ((fs.setData j _).content i)
      rw [RD.Fs.content_setData_ne _ _ _ _ hj]; exact same

/-- the bytes `[lo, hi)` of inode `i` exist in `fs` and are those of `fs0` -/
def Win (fs0 fs : Fs) (i lo hi : Nat) : Prop :=
  hi ≤ (fs.content i).length ∧ ∀ k, lo ≤ k → k < hi → (fs.content i)[k]? = (fs0.content i)[k]?

theorem Win.readAt {fs : Fs} {i off len : Nat} (h : Win fs0 fs i off (off + len)) :
    fs.readAt i off len = fs0.readAt i off len := by
  unfold Fs.readAt
  apply List.ext_getElem?
  intro j
  rw [List.getElem?_take, List.getElem?_take]
  split
  · rw [List.getElem?_drop, List.getElem?_drop]
    exact h.2 (off + j) (by omega) (by omega)
  · rfl

theorem Win.setLen {fs : Fs} {i lo hi : Nat} (h : Win fs0 fs i lo hi) {n : Nat} (hn : hi ≤ n) :
    Win fs0 (fs.setLen i n) i lo hi := by
  refine ⟨by rw [RD.Fs.content_setLen_length]; exact hn, fun k h1 h2 => ?_⟩
  rw [RD.Fs.content_setLen, RunX.sl_get, if_pos (by omega), RunX.some_getD (by have := h.1; omega)]
  exact h.2 k h1 h2

theorem Win.writeAt_out {fs : Fs} {i lo hi : Nat} (h : Win fs0 fs i lo hi) {off : Nat} {d : Bytes}
    (hd : hi ≤ off ∨ off + d.length ≤ lo) : Win fs0 (fs.writeAt i off d) i lo hi := by
  refine ⟨by rw [RD.Fs.content_writeAt_length]; exact Nat.le_trans h.1 (Nat.le_max_left _ _), fun k h1 h2 => ?_⟩
  rw [RD.Fs.content_writeAt, RunX.wr_get]
  rcases hd with hd | hd
  · rw [if_pos (by omega), RunX.some_getD (by have := h.1; omega)]; exact h.2 k h1 h2
  · rw [if_neg (by omega), if_neg (by omega)]; exact h.2 k h1 h2

theorem Win.writeAt_same {fs : Fs} {i lo hi : Nat} (h : Win fs0 fs i lo hi) {d : Bytes} (hl : lo + d.length = hi)
    (hd : ∀ k, lo ≤ k → k < hi → d[k - lo]? = (fs0.content i)[k]?) : Win fs0 (fs.writeAt i lo d) i lo hi := by
  refine ⟨by rw [RD.Fs.content_writeAt_length]; exact Nat.le_trans h.1 (Nat.le_max_left _ _), fun k h1 h2 => ?_⟩
  rw [RD.Fs.content_writeAt, RunX.wr_get, if_neg (by omega), if_pos (by omega)]
  exact hd k h1 h2

theorem segStart_zero (segs : List WSeg) : segStart segs 0 = 0 := by
  simp [segStart]

theorem segStart_succ (a : WSeg) (segs : List WSeg) (k : Nat) : segStart (a :: segs) (k + 1) = a.len + segStart segs k := by
  simp [segStart]

theorem mapM_flatten_slice (f : WSeg → Option Bytes) {segs : List WSeg} {ps : List Bytes}
    (h : segs.mapM f = some ps) (hlen : ∀ s ∈ segs, ∀ b, f s = some b → b.length = s.len) :
    ∀ k s, segs[k]? = some s → ∃ b, f s = some b ∧ (ps.flatten.drop (segStart segs k)).take s.len = b := by
  induction segs generalizing ps with
  | nil => intro k s hk; simp at hk
  | cons a l ih =>
    obtain ⟨b0, bs, ha, hl, rfl⟩ := mapM_cons_some h
    have hb0 : b0.length = a.len := hlen a List.mem_cons_self b0 ha
    intro k s hk
    cases k with
    | zero =>
      simp at hk
      subst hk
      refine ⟨b0, ha, ?_⟩
      rw [segStart_zero, List.drop_zero, List.flatten_cons, ← hb0, List.take_left']
      rfl
    | succ k =>
      simp at hk
      obtain ⟨b, hb, e⟩ := ih hl (fun s' hs' => hlen s' (List.mem_cons_of_mem _ hs')) k s hk
      refine ⟨b, hb, ?_⟩
      rw [segStart_succ, List.flatten_cons, ← hb0, List.drop_length_add_append]
      exact e

theorem segBytesIn_len {fs : Fs} {s : WSeg} {b : Bytes} (h : segBytesIn fs s = some b) : b.length = s.len := by
  unfold segBytesIn at h
  split at h
  · cases h; simp
  · split at h
    · split at h
      · cases h
        unfold Fs.readAt
        rw [List.length_take, List.length_drop]; omega
      · cases h
    · cases h

theorem segBytesIn_nonpad {fs : Fs} {s : WSeg} {b : Bytes} (hp : s.ent.isPad = false) (h : segBytesIn fs s = some b) :
    ∃ i, fs.look s.ent.fullTarget = .file i ∧ s.off + s.len ≤ (fs.content i).length ∧ b = fs.readAt i s.off s.len := by
  unfold segBytesIn at h
  split at h
  · rename_i hp'; rw [hp] at hp'; cases hp'
  · split at h
    · rename_i i hl
      split at h
      · rename_i hlen
        cases h
        exact ⟨i, hl, hlen, rfl⟩
      · cases h
    · cases h

theorem segBytesIn_of {fs : Fs} {s : WSeg} {i : Nat} (hp : s.ent.isPad = false)
    (hl : fs.look s.ent.fullTarget = .file i) (hlen : s.off + s.len ≤ (fs.content i).length) :
    segBytesIn fs s = some (fs.readAt i s.off s.len) := by
  simp [segBytesIn, hp, hl, hlen]

theorem segBytesIn_pad {fs fs' : Fs} {s : WSeg} (hp : s.ent.isPad = true) : segBytesIn fs' s = segBytesIn fs s := by
  simp [segBytesIn, hp]

theorem verE_transfer {H : Bytes → Bytes} {fs fs' : Fs} {w : Work}
    (h : ∀ s ∈ w.segs, ∀ b, segBytesIn fs s = some b → segBytesIn fs' s = some b) (hver : VerE H fs w) :
    VerE H fs' w := by
  obtain ⟨ps, h1, h2⟩ := hver
  exact ⟨ps, by simpa using mapM_option_rel (g := id) h h1, h2⟩

/-- on a concrete tree, whether a piece verifies is decided by reading its segments (the checked worlds state
    `VerE` and `¬ VerE` of their trees as they stand) -/
instance (H : Bytes → Bytes) (fs : Fs) (w : Work) : Decidable (VerE H fs w) :=
  decidable_of_iff (∃ parts ∈ w.segs.mapM (segBytesIn fs), H parts.flatten = w.hash)
    ⟨fun ⟨p, h1, h2⟩ => ⟨p, h1, h2⟩, fun ⟨p, h1, h2⟩ => ⟨p, h1, h2⟩⟩

theorem opFact_path {H : Bytes → Bytes} {work : List Work} {o : Op} (hf : RunJ.OpFact H work table o)
    (hk : (∃ n, o.kind = .setlen n) ∨ (∃ off d, o.kind = .write off d)) :
    ∃ e ∈ table, e.isPad = false ∧ o.path = e.fullTarget := by
  rcases hk with ⟨n, hk⟩ | ⟨off, d, hk⟩
  · obtain ⟨e, he, hp, hpa, _⟩ := hf.1 n hk
    exact ⟨e, he, hp, hpa⟩
  · obtain ⟨v, _, k, sg, buf, _, hp, hent, hpa, _⟩ := hf.2 off d hk
    exact ⟨sg.ent, hent, hp, hpa⟩

/-- `p` names no export image -/
def Outside (table : List TEntry) (p : Path) : Prop := ∀ e ∈ table, e.isPad = false → e.fullTarget ≠ p

/-- an inode bound at the start to a name outside the images keeps its content: `set_len` and writes go to
    images, and an image shares its inode with no other name -/
theorem frame_step {H : Bytes → Bytes} {work : List Work} {fs : Fs} (s : RunJ.Names table fs0 fs) {p : Path} {i : Nat}
    (hp : fs0.inoOf p = some i) (hout : Outside table p) (o : Op) (hf : RunJ.OpFact H work table o) :
    (applyOp fs o).content i = fs.content i := by
  have hi := s.keep _ _ hp
  have key : fs.look o.path = .file i → (∃ n, o.kind = .setlen n) ∨ (∃ off d, o.kind = .write off d) → False := by
    intro hl hk
    obtain ⟨e, he, hpe, hpath⟩ := opFact_path hf hk
    exact hout e he hpe (s.na e he hpe _ _ (hpath ▸ RunF.look_file_inoOf hl) hi).symm
  exact applyOp_content (Q := fun c => c = fs.content i) o (s.lt _ _ hi) rfl
    (fun n hk hl => (key hl (Or.inl ⟨n, hk⟩)).elim) (fun off d hk hl => (key hl (Or.inr ⟨off, d, hk⟩)).elim)

theorem frame {H : Bytes → Bytes} {work : List Work} (hwf : FsWF fs0) (hna : RunJ.NoAl fs0 table) (ops : List Op)
    (hops : ∀ o ∈ ops, RunJ.OpFact H work table o) :
    SInv table fs0 (replay fs0 ops) ∧
    ∀ p i, fs0.inoOf p = some i → Outside table p → (replay fs0 ops).content i = fs0.content i := by
  refine replay_ind (Q := fun fs => SInv table fs0 fs ∧
      ∀ p i, fs0.inoOf p = some i → Outside table p → fs.content i = fs0.content i) ?_ ops fs0 hops
    ⟨SInv.base hwf hna, fun _ _ _ _ => rfl⟩
  intro fs o hf ⟨s, c⟩
  exact ⟨s.step o, fun p i hp hout => (frame_step s.toNames hp hout o hf).trans (c p i hp hout)⟩

theorem foreign_preserved {H : Bytes → Bytes} {work : List Work} (hwf : FsWF fs0) (hna : RunJ.NoAl fs0 table)
    {w : Work} (hforeign : ∀ s ∈ w.segs, s.ent.isPad = false → Outside table s.ent.fullTarget)
    (hver : VerE H fs0 w) (ops : List Op) (hops : ∀ o ∈ ops, RunJ.OpFact H work table o) :
    VerE H (replay fs0 ops) w := by
  obtain ⟨hs, hc⟩ := frame hwf hna ops hops
  refine verE_transfer ?_ hver
  intro s hs' b hb
  cases hp : s.ent.isPad with
  | true => rw [segBytesIn_pad hp]; exact hb
  | false =>
    obtain ⟨i, hl, hlen, rfl⟩ := segBytesIn_nonpad hp hb
    have hc := hc _ i (RunF.look_file_inoOf hl) (hforeign s hs' hp)
    rw [segBytesIn_of hp (hs.look hwf hl) (by rw [hc]; exact hlen)]
    unfold Fs.readAt
    rw [hc]

/-- the windows of the non-padding segments of `w` that were readable at the start still hold their bytes -/
structure MInv (table : List TEntry) (w : Work) (fs0 fs : Fs) : Prop where
  s : SInv table fs0 fs
  c : ∀ seg ∈ w.segs, seg.ent.isPad = false → ∀ i, fs0.look seg.ent.fullTarget = .file i →
    seg.off + seg.len ≤ (fs0.content i).length → Win fs0 fs i seg.off (seg.off + seg.len)

theorem MInv.step {H : Bytes → Bytes} {work : List Work} {w : Work} {fs : Fs}
    (hsame : RunJ.SameLen table) (hrange : SegsInRange w) (hent : ∀ seg ∈ w.segs, seg.ent ∈ table)
    (hdisj : Disj work) (hinj : HInj H work) (hw : w ∈ work)
    {ps : List Bytes} (hps : w.segs.mapM (segBytesIn fs0) = some ps) (hH : H ps.flatten = w.hash)
    (o : Op) (hf : RunJ.OpFact H work table o) (h : MInv table w fs0 fs) : MInv table w fs0 (applyOp fs o) := by
  refine ⟨h.s.step o, ?_⟩
  intro seg hseg hpad i hl0 hlen0
  have hW := h.c seg hseg hpad i hl0 hlen0
  have hi' := h.s.keep _ _ (RunF.look_file_inoOf hl0)
  refine applyOp_content (Q := fun c => seg.off + seg.len ≤ c.length ∧
    ∀ k, seg.off ≤ k → k < seg.off + seg.len → c[k]? = (fs0.content i)[k]?) o (h.s.lt _ _ hi') hW ?_ ?_
  · -- `set_len` to the declared length of an entry with the same image
    intro n hk hl
    have hio := RunF.look_file_inoOf hl
    obtain ⟨e', he', hpe, hpa, hn⟩ := hf.1 n hk
    rw [hpa] at hio
    have heq : seg.ent.fullTarget = e'.fullTarget := h.s.na e' he' hpe _ _ hio hi'
    have hfl : e'.fileLength = seg.ent.fileLength := hsame e' he' seg.ent (hent seg hseg) hpe hpad heq.symm
    exact hW.setLen (by have := hrange seg hseg; omega)
  · intro off d hk hl
    have hio := RunF.look_file_inoOf hl
    obtain ⟨v, hv, k, sg, buf, hsg, hpsg, hsent, hpa, hoff, hHb, hbl, hd⟩ := hf.2 off d hk
    rw [hpa] at hio
    have heq : seg.ent.fullTarget = sg.ent.fullTarget := h.s.na sg.ent hsent hpsg _ _ hio hi'
    have hdl : d.length = sg.len := by
      rw [hd, List.length_take, List.length_drop]; omega
    obtain ⟨a, ha⟩ := List.getElem?_of_mem hw
    obtain ⟨b, hb⟩ := List.getElem?_of_mem hv
    obtain ⟨j, hj⟩ := List.getElem?_of_mem hseg
    rw [hoff]
    by_cases hab : a = b
    · -- a write of the piece itself: the same segment, the same bytes
      subst hab
      rw [ha] at hb
      cases hb
      by_cases hjk : j = k
      · subst hjk
        rw [hj] at hsg
        cases hsg
        obtain ⟨b', hb', hsl⟩ := mapM_flatten_slice _ hps (fun _ _ _ hb => segBytesIn_len hb) j seg hj
        obtain ⟨i', hl', _, hbr⟩ := segBytesIn_nonpad hpad hb'
        rw [hl0] at hl'
        cases hl'
        have hbuf : buf = ps.flatten := hinj w hw buf ps.flatten hHb hH
        rw [hbuf, hsl, hbr] at hd
        refine hW.writeAt_same (by omega) ?_
        intro x h1 h2
        rw [hd]
        unfold Fs.readAt
        rw [List.getElem?_take, if_pos (by omega), List.getElem?_drop]
        congr 1
        omega
      · exact absurd heq (hdisj.2 w hw j k seg sg hj hsg hjk hpad hpsg)
    · -- a write of another piece: disjoint ranges
      have := hdisj.1 a b w v ha hb hab seg hseg sg (List.mem_of_getElem? hsg) hpad hpsg heq
      exact hW.writeAt_out (by omega)

theorem MInv.verE {H : Bytes → Bytes} {w : Work} {fs : Fs} (hwf : FsWF fs0) (h : MInv table w fs0 fs)
    (hver : VerE H fs0 w) : VerE H fs w := by
  refine verE_transfer ?_ hver
  intro s hs b hb
  cases hp : s.ent.isPad with
  | true => rw [segBytesIn_pad hp]; exact hb
  | false =>
    obtain ⟨i, hl, hlen, rfl⟩ := segBytesIn_nonpad hp hb
    have hW := h.c s hs hp i hl hlen
    rw [segBytesIn_of hp (h.s.look hwf hl) hW.1, hW.readAt]

theorem preserved {H : Bytes → Bytes} {work : List Work} (hwf : FsWF fs0) (hna : RunJ.NoAl fs0 table)
    (hsame : RunJ.SameLen table) (hdisj : Disj work) (hinj : HInj H work) {w : Work} (hw : w ∈ work)
    (hrange : SegsInRange w) (hent : ∀ seg ∈ w.segs, seg.ent ∈ table) (hver : VerE H fs0 w)
    (ops : List Op) (hops : ∀ o ∈ ops, RunJ.OpFact H work table o) : VerE H (replay fs0 ops) w := by
  obtain ⟨ps, hps, hH⟩ := hver
  have h0 : MInv table w fs0 fs0 := ⟨SInv.base hwf hna, fun _ _ _ _ _ hlen => ⟨hlen, fun _ _ _ => rfl⟩⟩
  exact (replay_ind (fun _ o hf h => MInv.step hsame hrange hent hdisj hinj hw hps hH o hf h) ops fs0 hops h0).verE
    hwf ⟨ps, hps, hH⟩

theorem run_work_cases (H : Bytes → Bytes) (inp : RunIn) :
    (run H inp).work = [] ∨
    (convertPiecesToWork (run H inp).table (dedupTorrents (sortTorrents inp.torrents)) = some (run H inp).work ∧
      ∃ c, (run H inp).table = (populateSearches c inp.searchObs
        (buildTable inp.exportDir.path (dedupTorrents (sortTorrents inp.torrents)) 0)).1) := by
  by_cases hne : inp.torrents = []
  · rw [RB.run_nil H inp hne]; exact .inl rfl
  rcases RB.run_stages H inp hne with ⟨_, h⟩ | ⟨_, _, _, h⟩ | ⟨_, _, h⟩ <;> rw [h]
  · exact .inl rfl
  · exact .inl rfl
  · rcases RB.runSolve_cases H (dedupTorrents (sortTorrents inp.torrents)) inp.order
        (populateSearches (RunQ.cacheOf inp) inp.searchObs (RB.runTable0 inp)) with ⟨_, h⟩ | ⟨work, ok, hw, h⟩ <;> rw [h]
    · exact .inl rfl
    · exact .inr ⟨hw, _, rfl⟩

theorem run_work_ent (H : Bytes → Bytes) (inp : RunIn) :
    ∀ w ∈ (run H inp).work, ∀ seg ∈ w.segs, seg.ent ∈ (run H inp).table := by
  rcases run_work_cases H inp with h | ⟨h, _⟩
  · rw [h]; intro w hw; cases hw
  · exact convertPiecesToWork_ent h

end TB.RunK
