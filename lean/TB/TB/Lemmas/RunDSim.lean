/-
  The solver as a program over logged operations, and C13 locality: fault points outside the window of an
  evaluation do not change it.

  `Prog f` says that `f` is built from `St.op` by sequencing (`St.bind`) and by looking at the tree (`St.withFs`);
  every function of the solver is (`solvePiece_prog`). A property of state functions that is closed under these
  combinators therefore holds of the whole solver: `SimF` here, `RunS.Obl` in TB.Lemmas.RunS.
-/
import TB.Lemmas.RunBase
namespace TB.RD

def St.ret {α : Type} (x : α) : St → St × α := fun st => (st, x)
def St.bind {α β : Type} (g : St → St × β) (h : β → St → St × α) : St → St × α := fun st => h (g st).2 (g st).1
def St.withFs {α : Type} (k : Fs → St → St × α) : St → St × α := fun st => k st.fs st

inductive Prog : {α : Type} → (St → St × α) → Prop
  | ret {α : Type} (x : α) : Prog (St.ret x)
  | op (k : OpKind) (p : Path) (n : Fs → Fs × Bool) : Prog (fun st => st.op k p n)
  | bind {α β : Type} {g : St → St × β} {h : β → St → St × α} : Prog g → (∀ r, Prog (h r)) → Prog (St.bind g h)
  | withFs {α : Type} {k : Fs → St → St × α} : (∀ fs, Prog (k fs)) → Prog (St.withFs k)

theorem Prog.ite {α : Type} (c : Prop) [Decidable c] {f g : St → St × α} (hf : Prog f) (hg : Prog g) :
    Prog (fun st => if c then f st else g st) := by
  split
  · exact hf
  · exact hg

theorem Prog.congr {α : Type} {f g : St → St × α} (h : ∀ st, f st = g st) (hg : Prog g) : Prog f := by
  rw [funext h]; exact hg

theorem readBytes_prog (p : Path) (len off : Nat) : Prog (fun st => st.readBytes p len off) := by
  show Prog (St.bind (fun st => st.op .openr p (fun fs => (fs, match fs.look p with | .file _ => true | .dir => true | _ => false))) fun ok1 st1 =>
    if !ok1 then St.ret none st1 else
    St.bind (fun st => st.op (.seek off) p (fun fs => (fs, true))) (fun ok2 st2 =>
      if !ok2 then St.ret none st2 else
      if len == 0 then St.ret (some []) st2 else
      St.bind (fun st => st.op .read p (fun fs => (fs, match fs.look p with | .file _ => true | _ => false))) (fun ok3 st3 =>
        if !ok3 then St.ret none st3 else
        St.withFs (fun fs st => match fs.look p with
          | .file i => St.ret (some (fs.readAt i off len)) st
          | _ => St.ret none st) st3) st2) st1)
  refine .bind (.op _ _ _) fun ok1 => .ite _ (.ret _) ?_
  refine .bind (.op _ _ _) fun ok2 => .ite _ (.ret _) (.ite _ (.ret _) ?_)
  refine .bind (.op _ _ _) fun ok3 => .ite _ (.ret _) (.withFs fun fs => ?_)
  split <;> exact .ret _

theorem scanSingle_prog (H : Bytes → Bytes) (hash : Bytes) (seg : WSeg) (ps : List Path) :
    Prog (fun st => scanSingle H hash seg st ps) := by
  induction ps with
  | nil => exact .ret _
  | cons p ps ih =>
    refine .congr (g := St.bind (fun st => st.readBytes p seg.len seg.off) (fun r st1 =>
      match r with
      | none => St.ret .err st1
      | some bytes => if H bytes == hash then St.ret (.ok (some (p, bytes))) st1 else scanSingle H hash seg st1 ps))
      (fun st => ?_) (.bind (readBytes_prog _ _ _) fun r => ?_)
    · simp only [scanSingle, St.bind]
      rcases st.readBytes p seg.len seg.off with ⟨a, _ | b⟩ <;> rfl
    · cases r with
      | none => exact .ret _
      | some bytes => exact .ite _ (.ret _) ih

theorem preloadSeg_prog (seg : WSeg) (ps : List Path) :
    ∀ acc, Prog (fun st => preloadSeg seg st ps acc) := by
  induction ps with
  | nil => intro acc; exact .ret _
  | cons p ps ih =>
    intro acc
    refine .congr (g := St.bind (fun st => st.readBytes p seg.len seg.off) (fun r st1 =>
      match r with
      | none => St.ret .err st1
      | some bytes =>
        if acc.any (fun r => r.2 == bytes) then preloadSeg seg st1 ps acc
        else preloadSeg seg st1 ps (acc ++ [(some p, bytes)])))
      (fun st => ?_) (.bind (readBytes_prog _ _ _) fun r => ?_)
    · simp only [preloadSeg, St.bind]
      rcases st.readBytes p seg.len seg.off with ⟨a, _ | b⟩ <;> rfl
    · cases r with
      | none => exact .ret _
      | some bytes => exact .ite _ (ih _) (ih _)

theorem Prog.mapRes {α β : Type} {g : St → St × Res α} (hg : Prog g) (f : α → β) :
    Prog (fun st => ((g st).1, (g st).2.map f)) :=
  .bind hg fun r => .ret (r.map f)

theorem preload_prog (segs : List WSeg) : Prog (fun st => preload st segs) := by
  induction segs with
  | nil => exact .ret _
  | cons seg rest ih =>
    cases hpad : seg.ent.isPad
    case true => exact .congr (fun st => preload_cons_pad hpad st rest) (ih.mapRes _)
    cases hs : seg.ent.searches with
    | none => exact .congr (fun st => preload_cons_empty hpad hs st rest) (ih.mapRes _)
    | some paths =>
      refine .congr (g := St.bind (fun st => preloadSeg seg st paths []) fun r st1 => match r with
        | .ok r => ((preload st1 rest).1, (preload st1 rest).2.map (r :: ·))
        | .err => (st1, .err)
        | .panic => (st1, .panic)) (fun st => ?_) (.bind (preloadSeg_prog _ _ _) fun r => ?_)
      · rw [preload_cons_paths hpad hs, St.bind]
        rcases preloadSeg seg st paths [] with ⟨a, _ | _ | _⟩ <;> rfl
      · cases r with
        | ok r => exact ih.mapRes _
        | err => exact .ret _
        | panic => exact .ret _

theorem writeOne_prog (seg : WSeg) (buf : Bytes) (start : Nat) : Prog (fun st => writeOne st seg buf start) := by
  refine .congr (g := St.bind (fun st => st.op .mkdirs seg.ent.fullTarget.dropLast (fun fs => fs.mkdirs seg.ent.fullTarget.dropLast))
    fun ok1 st1 =>
      if !ok1 then St.ret (some Solved.fault) st1 else
      St.bind (fun st => st.op .openc seg.ent.fullTarget (fun fs => let r := fs.openCreate seg.ent.fullTarget; (r.1, r.2.isSome)))
        (fun ok2 st2 =>
          if !ok2 then St.ret (some Solved.fault) st2 else
          St.withFs (fun fs st2 =>
            match fs.look seg.ent.fullTarget with
            | .file i =>
              St.bind (fun st => st.op (.setlen seg.ent.fileLength) seg.ent.fullTarget
                  (fun fs => (fs.setLen i seg.ent.fileLength, true)))
                (fun ok3 st3 =>
                  if !ok3 then St.ret (some Solved.fault) st3 else
                  St.bind (fun st => st.op (.seek seg.off) seg.ent.fullTarget (fun fs => (fs, true)))
                    (fun ok4 st4 =>
                      if !ok4 then St.ret (some Solved.fault) st4 else
                      if buf.length < start + seg.len then St.ret (some Solved.fault) st4 else
                      St.bind (fun st => st.op (.write seg.off ((buf.drop start).take seg.len)) seg.ent.fullTarget
                          (fun fs => (fs.writeAt i seg.off ((buf.drop start).take seg.len), true)))
                        (fun ok5 st5 => if !ok5 then St.ret (some Solved.fault) st5 else St.ret none st5) st4) st3) st2
            | _ => St.ret (some Solved.fault) st2) st2) st1) (fun st => ?_) ?_
  · -- the same operations in the same order: name each result and compare
    unfold writeOne St.bind St.withFs St.ret
    dsimp only
    rcases st.op .mkdirs seg.ent.fullTarget.dropLast (fun fs => fs.mkdirs seg.ent.fullTarget.dropLast) with ⟨st1, _ | _⟩
    · rfl
    rcases st1.op .openc seg.ent.fullTarget
      (fun fs => ((fs.openCreate seg.ent.fullTarget).1, (fs.openCreate seg.ent.fullTarget).2.isSome)) with ⟨st2, _ | _⟩
    · rfl
    cases st2.fs.look seg.ent.fullTarget <;> rfl
  refine .bind (.op _ _ _) fun ok1 => .ite _ (.ret _) ?_
  refine .bind (.op _ _ _) fun ok2 => .ite _ (.ret _) (.withFs fun fs => ?_)
  split
  · refine .bind (.op _ _ _) fun ok3 => .ite _ (.ret _) ?_
    refine .bind (.op _ _ _) fun ok4 => .ite _ (.ret _) (.ite _ (.ret _) ?_)
    exact .bind (.op _ _ _) fun ok5 => .ite _ (.ret _) (.ret _)
  · exact .ret _

theorem writeSegs_prog (pairs : List (WSeg × Option Path)) (buf : Bytes) :
    ∀ start, Prog (fun st => writeSegs st pairs buf start) := by
  induction pairs with
  | nil => intro start; exact .ret _
  | cons x rest ih =>
    obtain ⟨seg, src⟩ := x
    intro start
    by_cases h : seg.ent.isPad = true ∨ src = some seg.ent.fullTarget
    · exact .congr (fun st => writeSegs_skip h st rest buf start) (ih _)
    · have hp : seg.ent.isPad = false := by
        cases hp : seg.ent.isPad
        · rfl
        · exact absurd (Or.inl hp) h
      refine .congr (fun st => writeSegs_write hp (fun e => h (Or.inr e)) st rest buf start)
        (.congr (g := St.bind (fun st => writeOne st seg buf start) (fun r st' =>
          match r with
          | none => writeSegs st' rest buf (start + seg.len)
          | some r => St.ret r st')) (fun st => ?_) (.bind (writeOne_prog _ _ _) fun r => ?_))
      · simp only [St.bind]
        rcases writeOne st seg buf start with ⟨a, _ | _⟩ <;> rfl
      · cases r with
        | none => exact ih _
        | some r => exact .ret _

theorem solvePiece_prog (H : Bytes → Bytes) (w : Work) : Prog (fun st => solvePiece H st w) := by
  unfold solvePiece; simp -iota only
  split; · exact .ret _
  split
  · rename_i seg _
    split
    · split <;> exact .ret _
    · split
      · exact .ret _
      · rename_i paths _
        refine .congr (g := St.bind (fun st => scanSingle H w.hash seg st paths) (fun r st1 =>
          match r with
          | .ok (some (src, bytes)) => writeSegs st1 [(seg, some src)] bytes 0
          | .ok none => St.ret Solved.notFound st1
          | .err => St.ret Solved.fault st1
          | .panic => St.ret Solved.panic st1)) (fun st => ?_) (.bind (scanSingle_prog _ _ _ _) fun r => ?_)
        · simp only [St.bind]
          rcases scanSingle H w.hash seg st paths with ⟨a, (_ | ⟨src, bytes⟩) | _ | _⟩ <;> rfl
        · rcases r with (_ | ⟨src, bytes⟩) | _ | _
          · exact .ret _
          · exact writeSegs_prog _ _ _
          · exact .ret _
          · exact .ret _
  · refine .congr (g := St.bind (fun st => preload st w.segs) (fun r st1 =>
      match r with
      | .ok loaded =>
        match searchProduct H w.hash loaded [] with
        | some chosen => writeSegs st1 (List.zip w.segs (chosen.map (·.1))) (chosen.flatMap (·.2)) 0
        | none => St.ret Solved.notFound st1
      | .err => St.ret Solved.fault st1
      | .panic => St.ret Solved.panic st1)) (fun st => ?_) (.bind (preload_prog _) fun r => ?_)
    · simp only [St.bind]
      rcases preload st w.segs with ⟨a, _ | _ | _⟩ <;> rfl
    · cases r with
      | ok loaded =>
        show Prog (fun st1 => match searchProduct H w.hash loaded [] with
          | some chosen => writeSegs st1 (List.zip w.segs (chosen.map (·.1))) (chosen.flatMap (·.2)) 0
          | none => St.ret Solved.notFound st1)
        split
        · exact writeSegs_prog _ _ _
        · exact .ret _
      | err => exact .ret _
      | panic => exact .ret _

/-- `b` is `a` with the fault points removed: same tree, same log -/
structure Agree (a b : St) : Prop where
  fs : a.fs = b.fs
  ops : a.ops = b.ops
  nf : b.faults = []

/-- no fault point of `a` lies in the window from its current log position up to `n` -/
def Clear (a : St) (n : Nat) : Prop := ∀ idx ∈ a.faults, idx < a.ops.length ∨ n ≤ idx

/-- `f` only appends to the log, and from `a` it does what it does from the fault-free copy `b` of `a` (same
    answer, same tree, same log, fault points kept) as long as no fault point of `a` lies inside the stretch of
    log that the fault-free evaluation writes -/
def SimF {α : Type} (f : St → St × α) : Prop :=
  (∀ st, st.ops.length ≤ (f st).1.ops.length) ∧
  ∀ a b, Agree a b → Clear a (f b).1.ops.length →
    (f a).2 = (f b).2 ∧ Agree (f a).1 (f b).1 ∧ (f a).1.faults = a.faults

theorem SimF.ret {α : Type} (x : α) : SimF (St.ret x) :=
  ⟨fun _ => Nat.le_refl _, fun _ _ hA _ => ⟨rfl, hA, rfl⟩⟩

theorem SimF.op (k : OpKind) (p : Path) (n : Fs → Fs × Bool) : SimF (fun st => st.op k p n) := by
  constructor
  · intro st
    show _ ≤ (st.op k p n).1.ops.length
    cases h : st.faults.contains st.ops.length
    · rw [St.op_nofault _ _ _ h]; simp
    · rw [St.op_fault _ _ _ h]; simp
  · intro a b hA hC
    replace hC : Clear a (b.op k p n).1.ops.length := hC
    show (a.op k p n).2 = (b.op k p n).2 ∧ Agree (a.op k p n).1 (b.op k p n).1 ∧ (a.op k p n).1.faults = a.faults
    have hb : b.faults.contains b.ops.length = false := by rw [hA.nf]; rfl
    rw [St.op_nofault _ _ _ hb] at hC
    have ha : a.faults.contains a.ops.length = false := by
      cases h : a.faults.contains a.ops.length
      · rfl
      · have := hC _ (by simpa using h)
        simp [hA.ops] at this
        omega
    rw [St.op_nofault _ _ _ hb, St.op_nofault _ _ _ ha, hA.fs, hA.ops]
    exact ⟨rfl, ⟨rfl, rfl, hA.nf⟩, rfl⟩

theorem SimF.bind {α β : Type} {g : St → St × β} {h : β → St → St × α}
    (hg : SimF g) (hh : ∀ r, SimF (h r)) : SimF (St.bind g h) := by
  constructor
  · intro st
    exact Nat.le_trans (hg.1 st) ((hh _).1 _)
  · intro a b hA hC
    -- the window of `g` is an initial stretch of the window of the whole
    have hm : (g b).1.ops.length ≤ (St.bind g h b).1.ops.length := (hh _).1 _
    have hC1 : Clear a (g b).1.ops.length := by
      intro idx hi
      rcases hC idx hi with h | h
      · exact Or.inl h
      · exact Or.inr (Nat.le_trans hm h)
    obtain ⟨e1, A1, F1⟩ := hg.2 a b hA hC1
    -- `g` kept the fault points and only lengthened the log: what is left of the window is the window of `h`
    have hC2 : Clear (g a).1 (h (g b).2 (g b).1).1.ops.length := by
      intro idx hi
      rw [F1] at hi
      rcases hC idx hi with h | h
      · left
        have := hg.1 a
        omega
      · exact Or.inr h
    obtain ⟨e2, A2, F2⟩ := (hh (g b).2).2 _ _ A1 hC2
    simp only [St.bind, e1]
    exact ⟨e2, A2, F2.trans F1⟩

theorem SimF.withFs {α : Type} {k : Fs → St → St × α} (hk : ∀ fs, SimF (k fs)) : SimF (St.withFs k) := by
  constructor
  · intro st; exact (hk _).1 st
  · intro a b hA hC
    simp only [St.withFs, hA.fs] at hC ⊢
    exact (hk _).2 a b hA hC

theorem Prog.simF {α : Type} {f : St → St × α} (h : Prog f) : SimF f := by
  induction h with
  | ret x => exact SimF.ret x
  | op k p n => exact SimF.op k p n
  | bind _ _ ihg ihh => exact SimF.bind ihg ihh
  | withFs _ ih => exact SimF.withFs ih

theorem solvePiece_sim (H : Bytes → Bytes) (w : Work) : SimF (fun st => solvePiece H st w) :=
  (solvePiece_prog H w).simF

end TB.RD
