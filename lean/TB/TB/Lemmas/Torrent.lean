/-
  The loader against the specification: every stage is `resOfOption` of the corresponding `spec*` function on
  the erased tree (`evaluateFile_eq`, `evaluateFiles_eq`, `evaluateInfo_eq`, `load_eq`), so it never panics and
  accepts exactly what the specification accepts; `load_ok_struct` collects what an accepted torrent gives.
  Imports TB.Props.C08: the span of the `info` entry (`info_span`) is read off `C08_sound`.
-/
import TB.Model.Torrent
import TB.Spec.MetainfoSpec
import TB.Props.C08
namespace TB

theorem dictGet_eraseDict (ks : List StrTok) (vs : List Tok) (key : Bytes) :
    dictGet (eraseDict ks vs) key = (findValue ks vs key).map erase := by
  induction ks generalizing vs with
  | nil => simp [eraseDict, findValue, dictGet]
  | cons k ks ih =>
    cases vs with
    | nil => simp [eraseDict, findValue, dictGet]
    | cons v vs =>
      have ih' := ih vs
      simp only [dictGet] at ih' ⊢
      simp only [eraseDict, findValue, List.find?_cons]
      by_cases hk : k.val = key
      · simp [hk]
      · have hb : (k.val == key) = false := by simpa using hk
        simp only [hb, if_neg hk]
        exact ih'

theorem getInt_eraseDict (ks : List StrTok) (vs : List Tok) (key : Bytes) :
    getInt (eraseDict ks vs) key = findInt ks vs key := by
  simp only [getInt, findInt, dictGet_eraseDict]
  cases h : findValue ks vs key with
  | none => rfl
  | some t => cases t <;> simp [erase, BVal.asInt]

theorem getStr_eraseDict (ks : List StrTok) (vs : List Tok) (key : Bytes) :
    getStr (eraseDict ks vs) key = findStr ks vs key := by
  simp only [getStr, findStr, dictGet_eraseDict]
  cases h : findValue ks vs key with
  | none => rfl
  | some t => cases t <;> simp [erase, BVal.asStr]

theorem getList_eraseDict (ks : List StrTok) (vs : List Tok) (key : Bytes) :
    getList (eraseDict ks vs) key = (findList ks vs key).map eraseList := by
  simp only [getList, findList, dictGet_eraseDict]
  cases h : findValue ks vs key with
  | none => rfl
  | some t => cases t <;> simp [erase, BVal.asList]

theorem findValue_mem {ks : List StrTok} {vs : List Tok} {key : Bytes} {t : Tok}
    (h : findValue ks vs key = some t) : t ∈ vs := by
  induction ks generalizing vs with
  | nil => simp [findValue] at h
  | cons k ks ih =>
    cases vs with
    | nil => simp [findValue] at h
    | cons v vs =>
      simp only [findValue] at h
      split at h
      · simp_all
      · exact List.mem_cons_of_mem _ (ih h)

/-- `some ↦ ok`, `none ↦ err`: the shape of every total, panic-free loader step -/
def resOfOption {α : Type} : Option α → Res α
  | some a => .ok a
  | none => .err

@[simp] theorem resOfOption_some {α : Type} (a : α) : resOfOption (some a) = .ok a := rfl
@[simp] theorem resOfOption_none {α : Type} : resOfOption (none : Option α) = .err := rfl

theorem resOfOption_eq_ok {α : Type} {o : Option α} {a : α} : resOfOption o = .ok a ↔ o = some a := by
  cases o <;> simp [resOfOption]

theorem resOfOption_ne_panic {α : Type} (o : Option α) : resOfOption o ≠ .panic := by
  cases o <;> simp [resOfOption]

theorem specPath_eraseList (items : List Tok) : specPath (eraseList items) = pathStrings items := by
  induction items with
  | nil => simp [eraseList, specPath, pathStrings]
  | cons t ts ih =>
    cases t with
    | str t =>
      simp only [eraseList, erase, specPath, pathStrings, ih]
      split
      · cases pathStrings ts <;> rfl
      · rfl
    | _ => simp [eraseList, erase, specPath, pathStrings]

theorem evaluateFile_eq (ks : List StrTok) (vs : List Tok) :
    evaluateFile ks vs = resOfOption (specFile (.dict (eraseDict ks vs))) := by
  unfold evaluateFile specFile
  simp -zeta only [getInt_eraseDict, getList_eraseDict, Option.bind_eq_bind]
  extract_lets paths
  have hp : ((findList ks vs kPathUtf8).map eraseList).orElse (fun _ => (findList ks vs kPath).map eraseList)
      = paths.map eraseList := by
    simp only [paths]
    cases findList ks vs kPathUtf8 <;> rfl
  rw [hp]
  clear_value paths
  cases findInt ks vs kLength with
  | none => rfl
  | some lv =>
  dsimp only [Option.bind_some]
  cases toU64 lv with
  | none => rfl
  | some len =>
  dsimp only [Option.bind_some]
  cases paths with
  | none => rfl
  | some items =>
  dsimp only [Option.map_some, Option.bind_some]
  rw [specPath_eraseList]
  cases pathStrings items with
  | none => rfl
  | some ps =>
  dsimp only [Option.bind_some]
  cases ps.isEmpty with
  | true => rfl
  | false => cases ps.all plainComponent <;> rfl

theorem evaluateFiles_eq (items : List Tok) :
    evaluateFiles items = resOfOption (specFiles (eraseList items)) := by
  induction items with
  | nil => rfl
  | cons t ts ih =>
    cases t with
    | dict ks vs s c =>
      simp only [evaluateFiles, eraseList, erase, specFiles, evaluateFile_eq, ih, Option.bind_eq_bind]
      cases specFile (.dict (eraseDict ks vs)) with
      | none => rfl
      | some f =>
        cases specFiles (eraseList ts) with
        | none => rfl
        | some fs => rfl
    | _ => simp [evaluateFiles, eraseList, erase, specFiles, specFile]

theorem chunks20_eq_splitHashes (n : Nat) (bs : Bytes) (h : bs.length = 20 * n) :
    chunks20 (n + 1) bs = splitHashes n bs := by
  induction n generalizing bs with
  | zero =>
    have : bs = [] := List.eq_nil_of_length_eq_zero (by omega)
    subst this; rfl
  | succ n ih =>
    have hne : bs.isEmpty = false := by
      cases bs with
      | nil => simp at h
      | cons b bs => rfl
    rw [chunks20, splitHashes]
    simp only [hne]
    rw [ih]
    · rfl
    · simp only [List.length_drop]; omega

theorem splitHashes_length (n : Nat) (bs : Bytes) : (splitHashes n bs).length = n := by
  induction n generalizing bs with
  | zero => rfl
  | succ n ih => simp [splitHashes, ih]

theorem splitHashes_mem_length (n : Nat) (bs : Bytes) (h : bs.length = 20 * n) :
    ∀ x ∈ splitHashes n bs, x.length = 20 := by
  induction n generalizing bs with
  | zero => intro x hx; simp [splitHashes] at hx
  | succ n ih =>
    intro x hx
    simp only [splitHashes, List.mem_cons] at hx
    rcases hx with rfl | hx
    · simp only [List.length_take]; omega
    · exact ih (bs.drop 20) (by simp only [List.length_drop]; omega) x hx

theorem pieceCountOk_eq_spec (total L n : Nat) : pieceCountOk total L n = specPieceCount total L n := by
  unfold pieceCountOk specPieceCount
  by_cases hL : L = 0
  · rw [if_pos hL, if_pos hL]
  rw [if_neg hL, if_neg hL, decide_eq_decide, eq_comm, Nat.div_eq_iff (Nat.pos_of_ne_zero hL)]
  -- `omega` takes the products `m * L` for atoms
  cases n with
  | zero => simp only [Nat.zero_mul, Nat.zero_add, true_or, and_true]; omega
  | succ m => simp only [Nat.succ_mul, Nat.add_sub_cancel]; omega

theorem evaluateInfo_eq (ks : List StrTok) (vs : List Tok) :
    evaluateInfo ks vs = resOfOption (specInfo (eraseDict ks vs)) := by
  unfold evaluateInfo specInfo
  simp -zeta only [getStr_eraseDict, getInt_eraseDict, getList_eraseDict, Option.bind_eq_bind]
  extract_lets name length files
  have hn : name = (findStr ks vs kNameUtf8).orElse fun _ => findStr ks vs kName := by
    simp only [name]
    cases findStr ks vs kNameUtf8 <;> rfl
  clear_value name
  subst hn
  cases (findStr ks vs kNameUtf8).orElse fun _ => findStr ks vs kName with
  | none => rfl
  | some name =>
  dsimp only [Option.bind_some]
  by_cases hu : (!utf8Valid name) = true
  · rw [if_pos hu, if_pos hu]; rfl
  rw [if_neg hu, if_neg hu]
  by_cases hp : (!plainComponent name) = true
  · rw [if_pos hp, if_pos hp]; rfl
  rw [if_neg hp, if_neg hp]
  cases findStr ks vs kPieces with
  | none => rfl
  | some pieces =>
  dsimp only [Option.bind_some]
  by_cases hm : pieces.length % 20 = 0
  case neg =>
    rw [if_pos (bne_iff_ne.2 hm), if_pos hm]; rfl
  rw [if_neg (by rw [bne_iff_ne]; exact fun h => h hm), if_neg (fun h => h hm),
    chunks20_eq_splitHashes (pieces.length / 20) pieces (by omega)]
  cases findInt ks vs kPieceLength with
  | none => rfl
  | some plv =>
  dsimp only [Option.bind_some]
  cases toU64 plv with
  | none => rfl
  | some pl =>
  dsimp only [length, files, Option.bind_some]
  cases findInt ks vs kLength with
  | none =>
    cases findList ks vs kFiles with
    | none => rfl
    | some items =>
      dsimp only [Option.map_some]
      rw [evaluateFiles_eq]
      cases specFiles (eraseList items) with
      | none => rfl
      | some fs =>
        dsimp only [resOfOption_some, Option.bind_some]
        rw [pieceCountOk_eq_spec]
        cases fs.isEmpty with
        | true => rfl
        | false => cases specPieceCount ((fs.map (·.length)).sum) pl (splitHashes (pieces.length / 20) pieces).length <;> rfl
  | some lv =>
    cases findList ks vs kFiles with
    | some items => rfl
    | none =>
      dsimp only [Option.map_none]
      cases toU64 lv with
      | none => rfl
      | some l =>
        dsimp only [Option.bind_some]
        rw [pieceCountOk_eq_spec]
        cases specPieceCount l pl (splitHashes (pieces.length / 20) pieces).length <;> rfl

theorem evaluateInfo_ne_panic (ks : List StrTok) (vs : List Tok) : evaluateInfo ks vs ≠ .panic := by
  rw [evaluateInfo_eq]; exact resOfOption_ne_panic _

theorem evaluateInfo_ok_iff (ks : List StrTok) (vs : List Tok) (i : Info) :
    evaluateInfo ks vs = .ok i ↔ specInfo (eraseDict ks vs) = some i := by
  rw [evaluateInfo_eq]; exact resOfOption_eq_ok

theorem spansExactList_mem {inp : Bytes} {ts : List Tok} (h : spansExactList inp ts = true) :
    ∀ t ∈ ts, spansExact inp t = true := by
  induction ts with
  | nil => intro t ht; cases ht
  | cons a as ih =>
    simp only [spansExactList, Bool.and_eq_true] at h
    intro t ht
    rcases List.mem_cons.1 ht with rfl | ht
    · exact h.1
    · exact ih h.2 t ht

theorem spansExact_dict {inp : Bytes} {ks : List StrTok} {vs : List Tok} {s c : Nat}
    (h : spansExact inp (.dict ks vs s c) = true) :
    s ≤ c ∧ c ≤ inp.length ∧ ks.length = vs.length ∧ slice inp s c = encode (.dict (eraseDict ks vs))
      ∧ spansExactList inp vs = true := by
  simp only [spansExact, Bool.and_eq_true, decide_eq_true_eq, beq_iff_eq] at h
  obtain ⟨⟨⟨⟨⟨h1, h2⟩, h3⟩, h4⟩, _⟩, h6⟩ := h
  exact ⟨h1, h2, h3, h4, h6⟩

theorem toU64_le {v : Int} {n : Nat} (h : toU64 v = some n) : n ≤ u64Max := by
  unfold toU64 at h
  split at h
  · cases h; omega
  · cases h

theorem specPath_utf8 {items : List BVal} {ps : List Bytes} (h : specPath items = some ps) :
    ∀ c ∈ ps, utf8Valid c = true := by
  induction items generalizing ps with
  | nil => simp only [specPath] at h; cases h; intro c hc; cases hc
  | cons v rest ih =>
    cases v with
    | str s =>
      simp only [specPath] at h
      split at h
      · rename_i hu
        cases hr : specPath rest with
        | none => rw [hr] at h; cases h
        | some qs =>
          rw [hr] at h; cases h
          intro c hc
          rcases List.mem_cons.1 hc with rfl | hc
          · exact hu
          · exact ih hr c hc
      · cases h
    | _ => simp [specPath] at h

theorem specFile_wf {v : BVal} {f : FileRec} (h : specFile v = some f) :
    f.length ≤ u64Max ∧ f.path ≠ [] ∧ ∀ c ∈ f.path, utf8Valid c = true ∧ plainComponent c = true := by
  cases v with
  | dict d =>
    simp only [specFile, Option.bind_eq_bind, Option.bind_eq_some_iff] at h
    obtain ⟨len, ⟨lv, _, hlen⟩, items, _, path, hpath, h⟩ := h
    split at h
    · cases h
    · rename_i hne
      split at h
      · cases h
      · rename_i hall
        cases h
        refine ⟨toU64_le hlen, ?_, ?_⟩
        · intro he; apply hne; have he' : path = [] := he; simp [he']
        · intro c hc
          refine ⟨specPath_utf8 hpath c hc, ?_⟩
          simp only [Bool.not_eq_true', Bool.not_eq_false] at hall
          exact List.all_eq_true.1 hall c hc
  | _ => simp [specFile] at h

theorem specFiles_wf {items : List BVal} {fs : List FileRec} (h : specFiles items = some fs) :
    ∀ f ∈ fs, f.length ≤ u64Max ∧ f.path ≠ [] ∧ ∀ c ∈ f.path, utf8Valid c = true ∧ plainComponent c = true := by
  induction items generalizing fs with
  | nil => simp only [specFiles] at h; cases h; intro f hf; cases hf
  | cons v rest ih =>
    simp only [specFiles, Option.bind_eq_bind, Option.bind_eq_some_iff] at h
    obtain ⟨f0, hf0, fs0, hfs0, h⟩ := h
    cases h
    intro f hf
    rcases List.mem_cons.1 hf with rfl | hf
    · exact specFile_wf hf0
    · exact ih hfs0 f hf

theorem specInfo_wf {d : List (Bytes × BVal)} {i : Info} (h : specInfo d = some i) :
    utf8Valid i.name = true ∧ plainComponent i.name = true
    ∧ (∀ hsh ∈ i.pieces, hsh.length = 20)
    ∧ i.pieceLength ≤ u64Max
    ∧ ((∃ l, i.length = some l ∧ i.files = none ∧ l ≤ u64Max
          ∧ pieceCountOk l i.pieceLength i.pieces.length = true)
       ∨ (∃ fs, i.length = none ∧ i.files = some fs ∧ fs ≠ []
          ∧ (∀ f ∈ fs, f.length ≤ u64Max ∧ f.path ≠ [] ∧ ∀ c ∈ f.path, utf8Valid c = true ∧ plainComponent c = true)
          ∧ pieceCountOk ((fs.map (·.length)).sum) i.pieceLength i.pieces.length = true)) := by
  simp only [specInfo, Option.bind_eq_bind, Option.bind_eq_some_iff] at h
  obtain ⟨name, _, h⟩ := h
  by_cases hu : (!utf8Valid name) = true
  · rw [if_pos hu] at h; cases h
  rw [if_neg hu] at h
  by_cases hp : (!plainComponent name) = true
  · rw [if_pos hp] at h; cases h
  rw [if_neg hp, Option.bind_eq_some_iff] at h
  obtain ⟨pieces, _, h⟩ := h
  by_cases hm : pieces.length % 20 ≠ 0
  · rw [if_pos hm] at h; cases h
  rw [if_neg hm] at h
  simp only [Option.bind_eq_some_iff] at h
  obtain ⟨pl, ⟨plv, _, hpl⟩, h⟩ := h
  have hh := splitHashes_mem_length (pieces.length / 20) pieces (by omega)
  simp only [Bool.not_eq_true', Bool.not_eq_false] at hu hp
  revert h
  cases getInt d kLength with
  | none =>
    cases getList d kFiles with
    | none => nofun
    | some items =>
      intro h
      simp only [Option.bind_eq_some_iff] at h
      obtain ⟨fs, hfs, h⟩ := h
      cases hne : fs.isEmpty with
      | true => rw [hne, if_pos rfl] at h; cases h
      | false =>
        rw [hne, if_neg Bool.false_ne_true] at h
        by_cases hc : specPieceCount ((fs.map (·.length)).sum) pl (splitHashes (pieces.length / 20) pieces).length = true
        · rw [if_pos hc] at h
          cases h
          refine ⟨hu, hp, hh, toU64_le hpl, Or.inr ⟨fs, rfl, rfl, ?_, specFiles_wf hfs, ?_⟩⟩
          · intro he; rw [he] at hne; cases hne
          · rw [pieceCountOk_eq_spec]; exact hc
        · rw [if_neg hc] at h; cases h
  | some lv =>
    cases getList d kFiles with
    | some items => nofun
    | none =>
      intro h
      simp only [Option.bind_eq_some_iff] at h
      obtain ⟨l, hl, h⟩ := h
      by_cases hc : specPieceCount l pl (splitHashes (pieces.length / 20) pieces).length = true
      · rw [if_pos hc] at h
        cases h
        refine ⟨hu, hp, hh, toU64_le hpl, Or.inl ⟨l, rfl, rfl, toU64_le hl, ?_⟩⟩
        rw [pieceCountOk_eq_spec]; exact hc
      · rw [if_neg hc] at h; cases h

theorem findDict_eq_some {ks : List StrTok} {vs : List Tok} {key : Bytes} {r : List StrTok × List Tok × Nat × Nat} :
    findDict ks vs key = some r ↔ findValue ks vs key = some (.dict r.1 r.2.1 r.2.2.1 r.2.2.2) := by
  obtain ⟨a, b, c, d⟩ := r
  unfold findDict
  cases findValue ks vs key with
  | none => simp
  | some t => cases t <;> simp

theorem findDict_eq_none {ks : List StrTok} {vs : List Tok} {key : Bytes} :
    findDict ks vs key = none ↔ ∀ a b c d, findValue ks vs key ≠ some (.dict a b c d) := by
  unfold findDict
  cases findValue ks vs key with
  | none => exact ⟨fun _ _ _ _ _ => nofun, fun _ => rfl⟩
  | some t =>
    cases t with
    | dict a b c d => exact ⟨nofun, fun h => absurd rfl (h a b c d)⟩
    | _ => exact ⟨fun _ _ _ _ _ => nofun, fun _ => rfl⟩

theorem sliceRes_eq {inp : Bytes} {a b : Nat} (h1 : a ≤ b) (h2 : b ≤ inp.length) :
    sliceRes inp a b = .ok (slice inp a b) := by
  simp [sliceRes, slice, h1, h2]

theorem info_span {inp : Bytes} {rks iks : List StrTok} {rvs ivs : List Tok} {s0 c0 s c : Nat}
    (hd : decode inp = .ok (.dict rks rvs s0 c0)) (hf : findValue rks rvs kInfo = some (.dict iks ivs s c)) :
    s ≤ c ∧ c ≤ inp.length ∧ slice inp s c = encode (.dict (eraseDict iks ivs)) := by
  obtain ⟨_, _, _, _, hsl⟩ := spansExact_dict (C08_sound inp _ hd).2.2.1
  obtain ⟨h1, h2, _, h4, _⟩ := spansExact_dict (spansExactList_mem hsl _ (findValue_mem hf))
  exact ⟨h1, h2, h4⟩

theorem load_eq (H : Bytes → Bytes) (inp : Bytes) :
    load H inp = match decode inp with
      | .ok t => resOfOption (specLoad H (erase t))
      | .err => .err
      | .panic => .panic := by
  unfold load
  cases hd : decode inp with
  | err => rfl
  | panic => rfl
  | ok t =>
    cases t with
    | dict rks rvs s0 c0 =>
      dsimp only [erase, specLoad]
      rw [dictGet_eraseDict]
      unfold findDict
      cases hf : findValue rks rvs kInfo with
      | none => rfl
      | some tok =>
        cases tok with
        | dict iks ivs s c =>
          obtain ⟨h1, h2, h4⟩ := info_span hd hf
          dsimp only [Option.map_some, erase]
          rw [sliceRes_eq h1 h2, evaluateInfo_eq, h4]
          cases specInfo (eraseDict iks ivs) <;> rfl
        | _ => rfl
    | _ => rfl

/-- everything known about an accepted torrent: the decoded root, its `info` entry, the exact span of that
    entry, and the record the specification reads off the erased info dictionary -/
theorem load_ok_struct {H : Bytes → Bytes} {inp : Bytes} {T : Torrent} (h : load H inp = .ok T) :
    ∃ rks rvs s0 c0 iks ivs s c info,
      decode inp = .ok (.dict rks rvs s0 c0)
      ∧ canon (.dict (eraseDict rks rvs)) = true ∧ encode (.dict (eraseDict rks rvs)) = inp
      ∧ findValue rks rvs kInfo = some (.dict iks ivs s c)
      ∧ s ≤ c ∧ c ≤ inp.length ∧ slice inp s c = encode (.dict (eraseDict iks ivs))
      ∧ specInfo (eraseDict iks ivs) = some info ∧ T = ⟨info, H (slice inp s c)⟩ := by
  rw [load_eq] at h
  cases hd : decode inp with
  | err => rw [hd] at h; cases h
  | panic => rw [hd] at h; cases h
  | ok t =>
    rw [hd] at h
    have hs := resOfOption_eq_ok.1 h
    cases t with
    | dict rks rvs s0 c0 =>
      obtain ⟨hcan, henc, _⟩ := C08_sound inp _ hd
      simp only [erase, specLoad, dictGet_eraseDict] at hs
      cases hf : findValue rks rvs kInfo with
      | none => rw [hf] at hs; cases hs
      | some tok =>
        rw [hf] at hs
        cases tok with
        | dict iks ivs s c =>
          obtain ⟨h1, h2, h4⟩ := info_span hd hf
          dsimp only [Option.map_some, erase] at hs
          cases hsi : specInfo (eraseDict iks ivs) with
          | none => rw [hsi] at hs; cases hs
          | some info =>
            rw [hsi, ← h4] at hs
            cases hs
            exact ⟨rks, rvs, s0, c0, iks, ivs, s, c, info, rfl, hcan, henc, hf, h1, h2, h4, hsi, rfl⟩
        | _ => cases hs
    | _ => cases hs

theorem hexDigit_range : ∀ n, n < 16 → (48 ≤ hexDigit n ∧ hexDigit n ≤ 57) ∨ (97 ≤ hexDigit n ∧ hexDigit n ≤ 102) := by
  decide

theorem hexDigit_inj : ∀ a, a < 16 → ∀ b, b < 16 → hexDigit a = hexDigit b → a = b := by
  decide

end TB
