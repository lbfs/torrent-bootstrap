/-
  The byte-level invariant of C01_bytes.

  `Good`, `NoAl`, `BOk` have the same bodies as `GoodByte`, `NoAlias`, `BytesOk` of `TB.Props.C01bytes` (which
  imports this file). The invariant `Inv` is carried along the replay of the operation log; every fact about an
  operation is the membership fact `OpFact`, taken from `run_inv`.

  `applyOp_cases` is the one case analysis of a logged operation; `Names` is the part of the invariants of this
  file, of `RunK` and of `RunM` that every operation keeps.
-/
import TB.Spec.ExportSpec
import TB.Lemmas.RunF
import TB.Lemmas.RunARun
import TB.Props.C04a
import TB.Props.C11
namespace TB.RunJ
open TB

def Good (H : Bytes → Bytes) (work : List Work) (p : Path) (k : Nat) (x : UInt8) : Prop :=
  ∃ w ∈ work, ∃ (j : Nat) (seg : WSeg) (buf : Bytes),
    w.segs[j]? = some seg ∧ seg.ent.isPad = false ∧ seg.ent.fullTarget = p ∧
    seg.off ≤ k ∧ k < seg.off + seg.len ∧ H buf = w.hash ∧
    buf[segStart w.segs j + (k - seg.off)]? = some x

def NoAl (fs : Fs) (table : List TEntry) : Prop :=
  ∀ e ∈ table, e.isPad = false → ∀ q i, fs.inoOf e.fullTarget = some i → fs.inoOf q = some i → q = e.fullTarget

/-- `NoAl` in a form `decide` can check on a concrete tree and table -/
theorem NoAl.of_check (fs : Fs) (T : List TEntry)
    (key : ∀ e ∈ T, ∀ f ∈ fs.files, ∀ g ∈ fs.files, f.1 = e.fullTarget → g.2 = f.2 → g.1 = e.fullTarget) :
    NoAl fs T := by
  intro e he _ q i h1 h2
  exact key e he _ (RunF.inoOf_mem h1) _ (RunF.inoOf_mem h2) rfl rfl

def BOk (H : Bytes → Bytes) (work : List Work) (fs0 fs : Fs) : Prop :=
  ∀ p i, fs.inoOf p = some i → ∀ k x, (fs.content i)[k]? = some x →
    (∃ i0, fs0.inoOf p = some i0 ∧ (fs0.content i0)[k]? = some x)
    ∨ (x = 0 ∧ ∀ i0, fs0.inoOf p = some i0 → (fs0.content i0).length ≤ k)
    ∨ Good H work p k x

/-- table entries naming the same export image declare the same length -/
def SameLen (table : List TEntry) : Prop :=
  ∀ e ∈ table, ∀ f ∈ table, e.isPad = false → f.isPad = false → e.fullTarget = f.fullTarget →
    e.fileLength = f.fileLength

/-- the checked worlds decide `SameLen` of their evaluated tables (`RunJ.Cex.not_sameLen`, `RunQ.Ex.sameLen`) -/
instance (T : List TEntry) : Decidable (SameLen T) := by unfold SameLen; infer_instance

/-- the ways a logged operation changes the tree: not at all, `create_dir_all`, a file created where nothing was
    and the parent is a directory, `set_len` and a positional write on the inode the path is bound to -/
theorem applyOp_cases {Q : Fs → Prop} (fs : Fs) (o : Op) (same : Q fs)
    (mkdirs : o.kind = .mkdirs → Q (fs.mkdirs o.path).1)
    (create : o.kind = .openc → fs.look o.path = .notFound → fs.isDir o.path.dropLast = true →
      Q (RunF.addFile fs o.path))
    (setlen : ∀ n i, o.kind = .setlen n → fs.look o.path = .file i → Q (fs.setLen i n))
    (write : ∀ off d i, o.kind = .write off d → fs.look o.path = .file i → Q (fs.writeAt i off d)) :
    Q (applyOp fs o) := by
  unfold applyOp
  split
  · rename_i hk
    split
    · exact mkdirs hk
    · exact same
  · rename_i hk
    split
    · rcases RunF.openCreate_cases fs o.path with e | ⟨hl, hd, e⟩ <;> rw [e]
      · exact same
      · exact create hk hl hd
    · exact same
  · rename_i n hk
    split
    · cases hl : fs.look o.path with
      | file i => exact setlen n i hk hl
      | _ => exact same
    · exact same
  · rename_i off d hk
    split
    · cases hl : fs.look o.path with
      | file i => exact write off d i hk hl
      | _ => exact same
    · exact same
  · exact same

/-- kept by every logged operation whatsoever: inodes are below `next`; the names of `fs0` keep their inodes; no
    export image shares its inode -/
structure Names (table : List TEntry) (fs0 fs : Fs) : Prop where
  lt : ∀ p i, fs.inoOf p = some i → i < fs.next
  keep : ∀ q i, fs0.inoOf q = some i → fs.inoOf q = some i
  na : NoAl fs table

variable {H : Bytes → Bytes} {work : List Work} {table : List TEntry} {fs0 : Fs}

theorem Names.base (hwf : FsWF fs0) (hna : NoAl fs0 table) : Names table fs0 fs0 :=
  ⟨fun p i h => hwf.1 p i (RunF.inoOf_mem h), fun _ _ h => h, hna⟩

theorem Names.congr {fs fs' : Fs} (hf : fs'.files = fs.files) (hn : fs'.next = fs.next)
    (h : Names table fs0 fs) : Names table fs0 fs' := by
  have hi : ∀ p, fs'.inoOf p = fs.inoOf p := RunF.inoOf_congr hf
  refine ⟨?_, ?_, ?_⟩
  · intro p i hp; rw [hn]; rw [hi] at hp; exact h.lt p i hp
  · intro q i hq; rw [hi]; exact h.keep q i hq
  · intro e he hp q i h1 h2; rw [hi] at h1 h2; exact h.na e he hp q i h1 h2

/-- the new name gets the inode `next`, which no name had -/
theorem Names.addFile {fs : Fs} {t : Path} (h : Names table fs0 fs) (hnone : fs.inoOf t = none) :
    Names table fs0 (RunF.addFile fs t) := by
  refine ⟨?_, ?_, ?_⟩
  · intro p i hp
    show i < fs.next + 1
    rcases RunF.inoOf_addFile_some hp with ⟨_, rfl⟩ | ⟨_, hp⟩
    · exact Nat.lt_succ_self _
    · exact Nat.lt_succ_of_lt (h.lt p i hp)
  · intro q i hq
    have hq' := h.keep q i hq
    rw [RunF.inoOf_addFile, if_neg]
    · exact hq'
    · intro e; subst e; rw [hnone] at hq'; cases hq'
  · intro e he hp q i h1 h2
    rcases RunF.inoOf_addFile_some h1 with ⟨e1, rfl⟩ | ⟨_, h1'⟩
    · rcases RunF.inoOf_addFile_some h2 with ⟨e2, _⟩ | ⟨_, h2'⟩
      · rw [e1, e2]
      · exact absurd (h.lt q _ h2') (Nat.lt_irrefl _)
    · rcases RunF.inoOf_addFile_some h2 with ⟨_, rfl⟩ | ⟨_, h2'⟩
      · exact absurd (h.lt _ _ h1') (Nat.lt_irrefl _)
      · exact h.na e he hp q i h1' h2'

theorem Names.step {fs : Fs} (h : Names table fs0 fs) (o : Op) : Names table fs0 (applyOp fs o) :=
  applyOp_cases fs o h (fun _ => h.congr (RunF.mkdirs_spec fs o.path).1 (RunF.mkdirs_spec fs o.path).2.2.1)
    (fun _ hl _ => h.addFile (RunF.look_notFound hl).2) (fun _ _ _ _ => h.congr (fs := fs) rfl rfl)
    (fun _ _ _ _ _ => h.congr (fs := fs) rfl rfl)

/-- what holds of the tree `fs` replayed from a prefix of the log of a run started on `fs0`:
    inodes are below `next`; the names of `fs0` keep their inodes; no export image shares its inode; an export image
    that existed at the start is at least as long as it was or has its declared length; the byte sentence -/
structure Inv (H : Bytes → Bytes) (work : List Work) (table : List TEntry) (fs0 fs : Fs) : Prop where
  lt : ∀ p i, fs.inoOf p = some i → i < fs.next
  keep : ∀ q i, fs0.inoOf q = some i → fs.inoOf q = some i
  na : NoAl fs table
  len : ∀ e ∈ table, e.isPad = false → ∀ i i0, fs.inoOf e.fullTarget = some i → fs0.inoOf e.fullTarget = some i0 →
    (fs0.content i0).length ≤ (fs.content i).length ∨ (fs.content i).length = e.fileLength
  bytes : BOk H work fs0 fs

theorem Inv.names {fs : Fs} (h : Inv H work table fs0 fs) : Names table fs0 fs := ⟨h.lt, h.keep, h.na⟩

theorem Inv.base (hwf : FsWF fs0) (hna : NoAl fs0 table) : Inv H work table fs0 fs0 := by
  have n := Names.base hwf hna
  refine ⟨n.lt, n.keep, n.na, ?_, ?_⟩
  · intro e _ _ i i0 h h0
    rw [h] at h0; cases h0
    exact Or.inl (Nat.le_refl _)
  · intro p i h k x hx
    exact Or.inl ⟨i, h, hx⟩

/-- the invariant looks only at names, contents and `next` (so `create_dir_all` keeps it) -/
theorem Inv.congr {fs fs' : Fs} (hf : fs'.files = fs.files) (hd : fs'.data = fs.data) (hn : fs'.next = fs.next)
    (h : Inv H work table fs0 fs) : Inv H work table fs0 fs' := by
  have hi : ∀ p, fs'.inoOf p = fs.inoOf p := RunF.inoOf_congr hf
  have hc : ∀ i, fs'.content i = fs.content i := RunF.content_congr hd
  have n := h.names.congr hf hn
  refine ⟨n.lt, n.keep, n.na, ?_, ?_⟩
  · intro e he hp i i0 h1 h0; rw [hi] at h1; rw [hc]; exact h.len e he hp i i0 h1 h0
  · intro p i hp k x hx; rw [hi] at hp; rw [hc] at hx; exact h.bytes p i hp k x hx

theorem Inv.addFile {fs : Fs} {t : Path} (h : Inv H work table fs0 fs) (hnone : fs.inoOf t = none) :
    Inv H work table fs0 (RunF.addFile fs t) := by
  have cold : ∀ q j, fs.inoOf q = some j → (RunF.addFile fs t).content j = fs.content j :=
    fun q j hq => RunF.content_addFile fs t j (Nat.ne_of_lt (h.lt q j hq))
  have n := h.names.addFile hnone
  refine ⟨n.lt, n.keep, n.na, ?_, ?_⟩
  · intro e he hp i i0 h1 h0
    rcases RunF.inoOf_addFile_some h1 with ⟨e1, _⟩ | ⟨_, h1'⟩
    · have := h.keep _ _ h0
      rw [e1, hnone] at this; cases this
    · rw [cold _ _ h1']
      exact h.len e he hp i i0 h1' h0
  · intro p i hp k x hx
    rcases RunF.inoOf_addFile_some hp with ⟨_, rfl⟩ | ⟨_, hp'⟩
    · rw [RunF.content_addFile_new] at hx; cases hx
    · rw [cold _ _ hp'] at hx
      exact h.bytes p i hp' k x hx

theorem Inv.setData {fs : Fs} (hsame : SameLen table) (h : Inv H work table fs0 fs)
    {e : TEntry} (he : e ∈ table) (hpad : e.isPad = false) {i : Nat} (hi : fs.inoOf e.fullTarget = some i)
    (bs : Bytes)
    (hb : ∀ k x, bs[k]? = some x → (fs.content i)[k]? = some x
        ∨ (x = 0 ∧ ∀ i0, fs0.inoOf e.fullTarget = some i0 → (fs0.content i0).length ≤ k)
        ∨ Good H work e.fullTarget k x)
    (hl : ∀ i0, fs0.inoOf e.fullTarget = some i0 →
        (fs0.content i0).length ≤ bs.length ∨ bs.length = e.fileLength) :
    Inv H work table fs0 (fs.setData i bs) := by
  refine ⟨fun p j hp => h.lt p j hp, fun q j hq => h.keep q j hq, h.na, ?_, ?_⟩
  · intro e' he' hp' j i0 h1 h0
    have h1 : fs.inoOf e'.fullTarget = some j := h1
    by_cases hj : j = i
    · subst hj
      have heq : e'.fullTarget = e.fullTarget := h.na e he hpad _ _ hi h1
      rw [RD.Fs.content_setData]
      rw [heq] at h0
      rcases hl i0 h0 with h2 | h2
      · exact Or.inl h2
      · exact Or.inr (h2.trans (hsame e he e' he' hpad hp' heq.symm))
    · rw [RD.Fs.content_setData_ne _ _ _ _ hj]
      exact h.len e' he' hp' j i0 h1 h0
  · intro p j hp k x hx
    have hp : fs.inoOf p = some j := hp
    by_cases hj : j = i
    · subst hj
      have heq : p = e.fullTarget := h.na e he hpad _ _ hi hp
      subst heq
      rw [RD.Fs.content_setData] at hx
      rcases hb k x hx with h1 | h1
      · exact h.bytes _ _ hp k x h1
      · exact Or.inr h1
    · rw [RD.Fs.content_setData_ne _ _ _ _ hj] at hx
      exact h.bytes p j hp k x hx

/-- `set_len` to the declared length: truncation keeps a prefix; an extension starts at the current length, which is
    then not below the original one (otherwise the file already had its declared length) -/
theorem Inv.setLen {fs : Fs} (hsame : SameLen table) (h : Inv H work table fs0 fs)
    {e : TEntry} (he : e ∈ table) (hpad : e.isPad = false) {i : Nat} (hi : fs.inoOf e.fullTarget = some i) :
    Inv H work table fs0 (fs.setLen i e.fileLength) := by
  refine h.setData hsame he hpad hi (RunX.sl e.fileLength (fs.content i)) ?_ fun _ _ => Or.inr (RunX.sl_length _ _)
  intro k x hx
  rw [RunX.sl_get] at hx
  split at hx
  · rcases RunX.getD_cases hx with h1 | ⟨h1, h2⟩
    · exact Or.inl h1
    · refine Or.inr (Or.inl ⟨h1, fun i0 h0 => ?_⟩)
      rcases h.len e he hpad i i0 hi h0 with h3 | h3 <;> omega
  · cases hx

/-- a sound write: inside the segment the bytes are good; a zero-filled gap lies beyond the original length
    (otherwise the file already had its declared length, which contains the segment); the rest is unchanged -/
theorem Inv.writeAt {fs : Fs} (hsame : SameLen table) (hrange : ∀ w ∈ work, SegsInRange w)
    (h : Inv H work table fs0 fs)
    {w : Work} (hw : w ∈ work) {j : Nat} {seg : WSeg} {buf : Bytes} (hseg : w.segs[j]? = some seg)
    (hpad : seg.ent.isPad = false) (hent : seg.ent ∈ table) {i : Nat} (hi : fs.inoOf seg.ent.fullTarget = some i)
    (hH : H buf = w.hash) (hlen : segStart w.segs j + seg.len ≤ buf.length) :
    Inv H work table fs0 (fs.writeAt i seg.off ((buf.drop (segStart w.segs j)).take seg.len)) := by
  have hr : seg.off + seg.len ≤ seg.ent.fileLength := hrange w hw seg (List.mem_of_getElem? hseg)
  have hdl : ((buf.drop (segStart w.segs j)).take seg.len).length = seg.len := by
    rw [List.length_take, List.length_drop]; omega
  refine h.setData hsame hent hpad hi (RunX.wr seg.off _ (fs.content i)) ?_ ?_
  · intro k x hx
    rw [RunX.wr_get, hdl] at hx
    split at hx
    · rcases RunX.getD_cases hx with h1 | ⟨h1, h2⟩
      · exact Or.inl h1
      · refine Or.inr (Or.inl ⟨h1, fun i0 h0 => ?_⟩)
        rcases h.len _ hent hpad i i0 hi h0 with h4 | h4 <;> omega
    · split at hx
      · rename_i hk2
        rw [List.getElem?_take, if_pos (by omega), List.getElem?_drop] at hx
        exact Or.inr (Or.inr ⟨w, hw, j, seg, buf, hseg, hpad, rfl, by omega, hk2, hH, hx⟩)
      · exact Or.inl hx
  · intro i0 h0
    rw [RunX.wr_length, hdl]
    rcases h.len _ hent hpad i i0 hi h0 with h4 | h4
    · left; omega
    · right; omega

/-- what is known of an operation of the log: `set_len` names an export image and its declared length, a write is
    the write of a segment of a work item (whose entry is in the table) cut from a buffer with the piece's hash -/
def OpFact (H : Bytes → Bytes) (work : List Work) (table : List TEntry) (o : Op) : Prop :=
  (∀ n, o.kind = .setlen n → ∃ e ∈ table, e.isPad = false ∧ o.path = e.fullTarget ∧ n = e.fileLength) ∧
  (∀ off data, o.kind = .write off data → ∃ w ∈ work, ∃ k seg buf, w.segs[k]? = some seg ∧
    seg.ent.isPad = false ∧ seg.ent ∈ table ∧ o.path = seg.ent.fullTarget ∧ off = seg.off ∧ H buf = w.hash ∧
    segStart w.segs k + seg.len ≤ buf.length ∧ data = (buf.drop (segStart w.segs k)).take seg.len)

theorem Inv.step {fs : Fs} (hsame : SameLen table) (hrange : ∀ w ∈ work, SegsInRange w)
    (h : Inv H work table fs0 fs) (o : Op) (hf : OpFact H work table o) :
    Inv H work table fs0 (applyOp fs o) := by
  refine applyOp_cases fs o h ?_ ?_ ?_ ?_
  · intro _
    obtain ⟨h1, h2, h3, _⟩ := RunF.mkdirs_spec fs o.path
    exact h.congr h1 h2 h3
  · intro _ hl _
    exact h.addFile (RunF.look_notFound hl).2
  · intro n i hk hl
    obtain ⟨e, he, hpad, hp, hn⟩ := hf.1 n hk
    subst hn
    exact h.setLen hsame he hpad (hp ▸ RunF.look_file_inoOf hl)
  · intro off d i hk hl
    obtain ⟨w, hw, k, seg, buf, hseg, hpad, hent, hp, hoff, hH, hlen, hd⟩ := hf.2 off d hk
    subst hoff; subst hd
    exact h.writeAt hsame hrange hw hseg hpad hent (hp ▸ RunF.look_file_inoOf hl) hH hlen

theorem Inv.replay (hsame : SameLen table) (hrange : ∀ w ∈ work, SegsInRange w) (ops : List Op) :
    ∀ fs, (∀ o ∈ ops, OpFact H work table o) → Inv H work table fs0 fs → Inv H work table fs0 (replay fs ops) :=
  replay_ind (fun _ o hf h => h.step hsame hrange o hf) ops

theorem OpFact.of_not_mutating {o : Op} (h : o.kind.mutating = false) : OpFact H work table o :=
  ⟨fun n hk => (by rw [hk] at h; cases h), fun off d hk => (by rw [hk] at h; cases h)⟩

theorem run_opFact (H : Bytes → Bytes) (inp : RunIn) :
    ∀ o ∈ (run H inp).ops, OpFact H (run H inp).work (run H inp).table o := by
  intro o ho
  rcases (run_inv H inp).2 o ho with (h | h | ⟨e, he, hp, hkind, hpath⟩) |
    ⟨w, hw, h | ⟨buf, hb, k, seg, hseg, hp, hs⟩, hent⟩
  · exact .of_not_mutating (by rw [h]; rfl)
  · exact .of_not_mutating (by rw [h]; rfl)
  · refine ⟨fun n hk => ?_, fun off d hk => ?_⟩
    · rcases hkind with h | h <;> rw [h] at hk <;> cases hk
      exact ⟨e, he, hp, hpath, rfl⟩
    · rcases hkind with h | h <;> rw [h] at hk <;> cases hk
  · exact .of_not_mutating h.not_mutating
  · have hmem := List.mem_of_getElem? hseg
    refine ⟨fun n hk => ?_, fun off d hk => ?_⟩
    · exact ⟨seg.ent, hent seg hmem, hp, by have := hs.confined.1; rw [hk] at this; simpa using this,
        hs.confined.2 n hk⟩
    · obtain ⟨h1, h2, h3, h4⟩ := hs.write hk
      exact ⟨w, hw, k, seg, buf, hseg, hp, hent seg hmem, h1, h2, hb, h4, h3⟩

theorem inv_replay (H : Bytes → Bytes) (inp : RunIn) (hwf : FsWF inp.fs)
    (hna : NoAl inp.fs (run H inp).table) (hsame : SameLen (run H inp).table)
    (hrange : ∀ w ∈ (run H inp).work, SegsInRange w) (ops : List Op) (hops : ∀ o ∈ ops, o ∈ (run H inp).ops) :
    Inv H (run H inp).work (run H inp).table inp.fs (replay inp.fs ops) :=
  Inv.replay hsame hrange ops inp.fs (fun o ho => run_opFact H inp o (hops o ho)) (Inv.base hwf hna)

end TB.RunJ
