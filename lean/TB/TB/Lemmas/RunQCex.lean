/-
  Four small worlds for `TB.Props.C02chain` (T1, T2, T3 as in its header), `H` the identity.

  `Ex`  — non-vacuity of T1/T2: one single-file torrent (`n`, length 3, piece length 2, "hashes" `[1,2]` and `[3]`), the
          scan directory `s` holds `s/f = [1,2,3]`, the export directory `e` is empty. No faults, default order
          (last piece first). Both pieces are available in the scan-only file `s/f`; the run finds both and the image
          `e/ab/Data/n` ends up as `[1,2,3]`.
  `Cex` — T1 is false without `FsWF`: the same world, except that the name `s/f` is bound twice, first to inode 0 with
          content `[9,9,9]`, then to inode 1 with content `[1,2,3]`. The data of both pieces is present in a regular
          file `(s/f, 1)` of the right length below the scan directory whose inode is not that of an export image; but
          the index registers the last binding of the name and reads resolve the first: both pieces are reported
          `notFound`.
  `Dir` — T2 is false without its residual condition (`hnofault`): the world `Ex`, except that the export image
          `e/ab/Data/n` exists as a DIRECTORY. Every other hypothesis of T2 holds; both pieces are matched from `s/f`,
          the create-open of the image fails (EISDIR), both pieces end in `.fault` and nothing verifies.
  `Resume` — non-vacuity of T3: the world `Ex` with a fault point at operation 9 (the seek before the write of the
          piece evaluated first: that piece ends in `.fault`, its image is left as three zeros), interrupted after 12
          logged operations (while the other piece is being read). The second run finds both pieces.

  Availability in these worlds (and in those of `TB.Props.TopLevel`) is checked from one witness `(p, i, d)` per
  segment: `RunQ.avail_of_check`.
-/
import TB.Lemmas.RunQ
namespace TB.RunQ

/-! a checker for availability in concrete worlds (`RunQ.Avail`; `AvailScan` has the same body) -/

/-- the clause of `RunQ.Avail` for one segment, with the witness `x = (p, i, d)` -/
def AvailSegOk (fs : Fs) (scan : List PathArg) (table : List TEntry) (seg : WSeg) (x : Path × Nat × PathArg) : Prop :=
  seg.ent.isPad = true ∨ seg.len = 0 ∨
    ((x.1, x.2.1) ∈ fs.files ∧ x.2.2 ∈ scan ∧ (x.2.2.path.length < x.1.length ∧ x.1.take x.2.2.path.length = x.2.2.path) ∧
      (fs.content x.2.1).length = seg.ent.fileLength ∧
      (∀ e ∈ table, e.isPad = false → fs.inoOf e.fullTarget ≠ some x.2.1))

instance (fs : Fs) (scan : List PathArg) (table : List TEntry) (seg : WSeg) (x : Path × Nat × PathArg) :
    Decidable (AvailSegOk fs scan table seg x) := by unfold AvailSegOk; infer_instance

/-- the byte string the witness supplies for one segment -/
def availPart (fs : Fs) (seg : WSeg) (x : Path × Nat × PathArg) : Bytes :=
  if seg.ent.isPad then List.replicate seg.len 0
  else if seg.len = 0 then [] else fs.readAt x.2.1 seg.off seg.len

theorem avail_of_check {H : Bytes → Bytes} {fs : Fs} {scan : List PathArg} {table : List TEntry} {w : Work}
    (wit : List (Path × Nat × PathArg)) (hlen : wit.length = w.segs.length)
    (hok : ∀ y ∈ List.zip w.segs wit, AvailSegOk fs scan table y.1 y.2)
    (hh : H ((List.zip w.segs wit).map (fun y => availPart fs y.1 y.2)).flatten = w.hash) :
    RunQ.Avail H fs scan table w := by
  refine ⟨(List.zip w.segs wit).map (fun y => availPart fs y.1 y.2), ?_, hh, ?_⟩
  · rw [List.length_map, List.length_zip, hlen, Nat.min_self]
  · intro k seg part hk hpk
    rw [List.getElem?_map] at hpk
    cases hz : (List.zip w.segs wit)[k]? with
    | none => rw [hz] at hpk; cases hpk
    | some y =>
      rw [hz] at hpk
      simp only [Option.map_some, Option.some.injEq] at hpk
      have hy := List.mem_of_getElem? hz
      rw [List.getElem?_zip_eq_some] at hz
      have hseg : y.1 = seg := Option.some.inj (hz.1.symm.trans hk)
      have hchk := hok y hy
      rw [hseg] at hchk hpk
      subst hpk
      unfold availPart
      refine ⟨fun hp => by rw [if_pos hp], fun hp h0 => by rw [if_neg (by rw [hp]; simp), if_pos h0], ?_⟩
      intro hp h0
      rcases hchk with h | h | ⟨a1, a2, a3, a4, a5⟩
      · rw [hp] at h; cases h
      · exact absurd h h0
      · exact ⟨y.2.1, y.2.2.1, y.2.2.2, a1, a2, a3, a4, a5, by rw [if_neg (by rw [hp]; simp), if_neg h0]⟩

end TB.RunQ

namespace TB.RunQ.Ex
open TB TB.RB

def ih : Bytes := [0xAB]
def nm : Bytes := [110]
def eDir : Path := [[101]]
def sDir : Path := [[115]]
def root : Path := eDir ++ [hex ih, sData]
def img : Path := root ++ [nm]
def sf : Path := sDir ++ [[102]]

def tor : Torrent := ⟨⟨nm, some 3, none, 2, [[1, 2], [3]]⟩, ih⟩

def fs0 : Fs :=
  { files := [(sf, 0)], dirs := [eDir, sDir], data := [(0, [1, 2, 3])], next := 1 }

def inp : RunIn :=
  { fs := fs0, torrents := [tor], scan := [⟨true, sDir⟩], exportDir := ⟨true, eDir⟩, resize := false,
    searchObs := [], order := [], faults := [] }

def e0 : TEntry := ⟨0, ih, 0, 3, img, [nm], false, some [sf]⟩
def w0 : Work := ⟨[⟨2, 0, e0⟩], [1, 2]⟩
def w1 : Work := ⟨[⟨1, 2, e0⟩], [3]⟩

/-- the run, evaluated once: the facts about it that are used below are the components of this one conjunction, because
    the kernel shares the evaluation of `run id inp` inside one declaration only -/
theorem evaluated :
    (run id inp).table = [e0] ∧ (run id inp).work = [w0, w1] ∧
    (run id inp).fs.data = [(1, [1, 2, 3]), (0, [1, 2, 3])] ∧
    (run id inp).counters = [⟨1, 0, 0⟩, ⟨2, 0, 0⟩] ∧
    (run id inp).result ≠ .panic ∧
    (solvePiece id (solveAll id (runSt3 inp) [w1] ⟨0, 0, 0⟩ []).1 w0).2 ≠ .fault := by decide +kernel

theorem run_table : (run id inp).table = [e0] := evaluated.1
theorem run_work : (run id inp).work = [w0, w1] := evaluated.2.1
theorem run_data : (run id inp).fs.data = [(1, [1, 2, 3]), (0, [1, 2, 3])] := evaluated.2.2.1
theorem run_counters : (run id inp).counters = [⟨1, 0, 0⟩, ⟨2, 0, 0⟩] := evaluated.2.2.2.1
theorem ord : evalOrder (run id inp).work inp.order = [w1] ++ w0 :: [] := by rw [run_work]; rfl

theorem wf : FsWF inp.fs := by decide +kernel

/-- where the data of both pieces sits: in the scan-only file `(s/f, 0)` -/
def wit : List (Path × Nat × PathArg) := [(sf, 0, ⟨true, sDir⟩)]

theorem avail0 : Avail id inp.fs inp.scan (run id inp).table w0 := by
  rw [run_table]
  exact RunQ.avail_of_check wit (by decide +kernel) (by decide +kernel) (by decide +kernel)

theorem avail1 : Avail id inp.fs inp.scan (run id inp).table w1 := by
  rw [run_table]
  exact RunQ.avail_of_check wit (by decide +kernel) (by decide +kernel) (by decide +kernel)

theorem noAlias : RunJ.NoAl inp.fs (run id inp).table := by
  rw [run_table]
  exact RunJ.NoAl.of_check fs0 _ (by decide +kernel)

theorem sameLen : RunJ.SameLen (run id inp).table := by
  rw [run_table]
  decide +kernel

theorem disj : RunK.Disj (run id inp).work := by
  rw [run_work]
  exact RunK.Disj.of_check (by decide +kernel) (by decide +kernel)

theorem hinj : RunK.HInj id (run id inp).work := RunK.HInj.id _

theorem range0 : SegsInRange w0 := by decide +kernel
theorem range1 : SegsInRange w1 := by decide +kernel
theorem zero0 : ∀ s ∈ w0.segs, s.len = 0 → s.ent.fileLength = 0 := by decide +kernel
theorem zero1 : ∀ s ∈ w1.segs, s.len = 0 → s.ent.fileLength = 0 := by decide +kernel
theorem nopanic : (run id inp).result ≠ .panic := evaluated.2.2.2.2.1
theorem nofault0 : (solvePiece id (solveAll id (runSt3 inp) [w1] ⟨0, 0, 0⟩ []).1 w0).2 ≠ .fault := evaluated.2.2.2.2.2

end TB.RunQ.Ex

namespace TB.RunQ.Cex
open TB TB.RB TB.RunQ.Ex

def fs1 : Fs :=
  { files := [(sf, 0), (sf, 1)], dirs := [eDir, sDir], data := [(0, [9, 9, 9]), (1, [1, 2, 3])], next := 2 }

def inp : RunIn := { Ex.inp with fs := fs1 }

theorem evaluated :
    (run id inp).table = [e0] ∧ (run id inp).work = [w0, w1] ∧
    (run id inp).counters = [⟨0, 1, 0⟩, ⟨0, 2, 0⟩] ∧
    (solvePiece id (solveAll id (runSt3 inp) [w1] ⟨0, 0, 0⟩ []).1 w0).2 = .notFound := by decide +kernel

theorem run_table : (run id inp).table = [e0] := evaluated.1
theorem run_work : (run id inp).work = [w0, w1] := evaluated.2.1
theorem run_counters : (run id inp).counters = [⟨0, 1, 0⟩, ⟨0, 2, 0⟩] := evaluated.2.2.1
theorem ord : evalOrder (run id inp).work inp.order = [w1] ++ w0 :: [] := by rw [run_work]; rfl

theorem not_wf : ¬ FsWF inp.fs := by decide +kernel

theorem avail0 : Avail id inp.fs inp.scan (run id inp).table w0 := by
  rw [run_table]
  exact RunQ.avail_of_check [(sf, 1, ⟨true, sDir⟩)] (by decide +kernel) (by decide +kernel) (by decide +kernel)

theorem w0_notFound : (solvePiece id (solveAll id (runSt3 inp) [w1] ⟨0, 0, 0⟩ []).1 w0).2 = .notFound :=
  evaluated.2.2.2

end TB.RunQ.Cex

namespace TB.RunQ.Dir
open TB TB.RB TB.RunQ.Ex

def fsD : Fs := { fs0 with dirs := [eDir, sDir, eDir ++ [hex ih], root, img] }
def inp : RunIn := { Ex.inp with fs := fsD }

theorem evaluated :
    (run id inp).table = [e0] ∧ (run id inp).work = [w0, w1] ∧
    (run id inp).counters = [⟨0, 0, 1⟩, ⟨0, 0, 2⟩] ∧
    (run id inp).result ≠ .panic ∧
    (solvePiece id (solveAll id (runSt3 inp) [w1] ⟨0, 0, 0⟩ []).1 w0).2 = .fault ∧
    ¬ VerE id (run id inp).fs w0 := by decide +kernel

theorem run_table : (run id inp).table = [e0] := evaluated.1
theorem run_work : (run id inp).work = [w0, w1] := evaluated.2.1
theorem run_counters : (run id inp).counters = [⟨0, 0, 1⟩, ⟨0, 0, 2⟩] := evaluated.2.2.1
theorem ord : evalOrder (run id inp).work inp.order = [w1] ++ w0 :: [] := by rw [run_work]; rfl

theorem wf : FsWF inp.fs := by decide +kernel

theorem avail0 : Avail id inp.fs inp.scan (run id inp).table w0 := by
  rw [run_table]
  exact RunQ.avail_of_check wit (by decide +kernel) (by decide +kernel) (by decide +kernel)

theorem noAlias : RunJ.NoAl inp.fs (run id inp).table := by
  rw [run_table]
  exact RunJ.NoAl.of_check fsD _ (by decide +kernel)

theorem sameLen : RunJ.SameLen (run id inp).table := by
  rw [run_table]
  decide +kernel

theorem disj : RunK.Disj (run id inp).work := by
  rw [run_work]
  exact RunK.Disj.of_check (by decide +kernel) (by decide +kernel)

theorem hinj : RunK.HInj id (run id inp).work := RunK.HInj.id _

theorem nopanic : (run id inp).result ≠ .panic := evaluated.2.2.2.1

theorem w0_fault : (solvePiece id (solveAll id (runSt3 inp) [w1] ⟨0, 0, 0⟩ []).1 w0).2 = .fault :=
  evaluated.2.2.2.2.1

theorem w0_not_ver : ¬ VerE id (run id inp).fs w0 := evaluated.2.2.2.2.2

end TB.RunQ.Dir

namespace TB.RunQ.Resume
open TB TB.RB TB.RunQ.Ex

/-- the first run: a fault point at operation 9 -/
def inpF : RunIn := { Ex.inp with faults := [9] }
/-- the second run, on the tree left after 12 logged operations of the first (`resumeIn id inpF 12 [] [] []`) -/
def inp2 : RunIn :=
  { inpF with fs := replay inpF.fs ((run id inpF).ops.take 12), faults := [], searchObs := [], order := [] }

def e00 : TEntry := ⟨0, ih, 0, 3, img, [nm], false, none⟩
def e0' : TEntry := ⟨0, ih, 0, 3, img, [nm], false, some [img, sf]⟩
def w0' : Work := ⟨[⟨2, 0, e0'⟩], [1, 2]⟩
def w1' : Work := ⟨[⟨1, 2, e0'⟩], [3]⟩

/-- both runs, evaluated once (the second run starts on a tree that is a value of the first) -/
theorem evaluated :
    (run id inpF).counters = [⟨0, 0, 1⟩, ⟨1, 0, 1⟩] ∧
    inp2.fs.data = [(1, [0, 0, 0]), (0, [1, 2, 3])] ∧
    (run id inp2).table = [e0'] ∧ (run id inp2).work = [w0', w1'] ∧
    (run id inp2).counters = [⟨1, 0, 0⟩, ⟨2, 0, 0⟩] ∧
    (run id inp2).result ≠ .panic ∧
    (solvePiece id (solveAll id (runSt3 inp2) [w1'] ⟨0, 0, 0⟩ []).1 w0').2 ≠ .fault := by decide +kernel

theorem first_counters : (run id inpF).counters = [⟨0, 0, 1⟩, ⟨1, 0, 1⟩] := evaluated.1
theorem first_data_at_12 : inp2.fs.data = [(1, [0, 0, 0]), (0, [1, 2, 3])] := evaluated.2.1
theorem table0 : runTable0 inpF = [e00] := by decide +kernel
theorem run_table : (run id inp2).table = [e0'] := evaluated.2.2.1
theorem run_work : (run id inp2).work = [w0', w1'] := evaluated.2.2.2.1
theorem run_counters : (run id inp2).counters = [⟨1, 0, 0⟩, ⟨2, 0, 0⟩] := evaluated.2.2.2.2.1
theorem ord : evalOrder (run id inp2).work [] = [w1'] ++ w0' :: [] := by rw [run_work]; rfl

theorem noAlias0 : RunJ.NoAl inpF.fs (runTable0 inpF) := by
  rw [table0]
  exact RunJ.NoAl.of_check fs0 _ (by decide +kernel)

theorem avail0 : Avail id inpF.fs inpF.scan (runTable0 inpF) w0' := by
  rw [table0]
  exact RunQ.avail_of_check wit (by decide +kernel) (by decide +kernel) (by decide +kernel)

theorem sameLen : RunJ.SameLen (run id inp2).table := by
  rw [run_table]
  decide +kernel

theorem disj : RunK.Disj (run id inp2).work := by
  rw [run_work]
  exact RunK.Disj.of_check (by decide +kernel) (by decide +kernel)

theorem hinj : RunK.HInj id (run id inp2).work := RunK.HInj.id _

theorem range0 : SegsInRange w0' := by decide +kernel
theorem zero0 : ∀ s ∈ w0'.segs, s.len = 0 → s.ent.fileLength = 0 := by decide +kernel
theorem nopanic : (run id inp2).result ≠ .panic := evaluated.2.2.2.2.2.1
theorem nofault0 : (solvePiece id (solveAll id (runSt3 inp2) [w1'] ⟨0, 0, 0⟩ []).1 w0').2 ≠ .fault :=
  evaluated.2.2.2.2.2.2

end TB.RunQ.Resume
