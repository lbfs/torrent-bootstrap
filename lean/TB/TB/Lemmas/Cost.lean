/-
  The step bound of the decoder (C09cost): every step-counting function returns what the original model function returns
  (`fC x = (f x, n)`), and the count `n` obeys a potential argument. Every automaton state pays its steps with the
  bytes it consumes:
    decodeIntC / decodeStrC : n ≤ |inp| + 1, and on success n ≤ bytes consumed (string: |value| + 2 ≤ n);
    decodeAnyC              : n ≤ 2|inp| + 1, and on success n + 1 ≤ 2 · (bytes consumed);
    list / dictionary loops : n ≤ 2|inp| + 2, and on success n + 1 ≤ 2 · (bytes consumed);
  the key-order comparison costs at most |new key| + 1, paid by the bytes of the new key (hence the factor 2).
  "bytes consumed" is expressed through lengths (`n + 1 + 2·|rest| ≤ 2·|inp|`), so no prefix facts are needed.
-/
import TB.Spec.CostSpec
namespace TB.Cost
open TB

/-! ### integers and strings -/

/-- `p` is the result `a` with a count `n ≤ |inp| + 1`; a success with value `v` and rest `r` has
    `n + |r| ≤ |inp|` and `lo v ≤ n` -/
def Spent {V : Type} (inp : Bytes) (lo : V → Nat) (p : Res (V × Nat × Bytes) × Nat) (a : Res (V × Nat × Bytes)) :
    Prop :=
  ∃ n, p = (a, n) ∧ n ≤ inp.length + 1 ∧ ∀ v c r, a = .ok (v, c, r) → n + r.length ≤ inp.length ∧ lo v ≤ n

theorem Spent.err {V : Type} {inp : Bytes} {lo : V → Nat} {m : Nat} (h : m ≤ inp.length + 1) :
    Spent inp lo (.err, m) .err :=
  ⟨m, rfl, h, nofun⟩

/-- `k` more steps, paid by `k` more bytes in front -/
theorem Spent.step {V : Type} {inp inp' : Bytes} {lo lo' : V → Nat} {p : Res (V × Nat × Bytes) × Nat}
    {a : Res (V × Nat × Bytes)} (h : Spent inp lo p a) (k : Nat) (hlen : inp.length + k ≤ inp'.length)
    (hlo : ∀ v, lo' v ≤ lo v + k) : Spent inp' lo' (p.1, p.2 + k) a := by
  obtain ⟨n, rfl, hn, hok⟩ := h
  refine ⟨n + k, rfl, by omega, fun v c r hr => ?_⟩
  have := hok v c r hr
  have := hlo v
  omega

theorem intDigitsC_spec (neg : Bool) : ∀ (inp : Bytes) (acc : Int) (pos : Nat),
    Spent inp (fun _ => 1) (intDigitsC neg inp acc pos) (intDigits neg inp acc pos)
  | [], _, _ => .err (Nat.le_refl _)
  | b :: rest, acc, pos => by
    simp only [intDigitsC, intDigits]
    by_cases hd : isDigit b = true
    · rw [if_pos hd, if_pos hd]
      by_cases hm : (!inI128 (acc * 10)) = true
      · rw [if_pos hm, if_pos hm]; exact .err (Nat.le_add_left _ _)
      rw [if_neg hm, if_neg hm]
      generalize (if neg = true then acc * 10 - ↑(digitVal b) else acc * 10 + ↑(digitVal b)) = a
      by_cases ha : (!inI128 a) = true
      · rw [if_pos ha, if_pos ha]; exact .err (Nat.le_add_left _ _)
      rw [if_neg ha, if_neg ha]
      exact (intDigitsC_spec neg rest a (pos + 1)).step 1 (Nat.le_refl _) fun _ => Nat.le_add_left _ _
    · rw [if_neg hd, if_neg hd]
      by_cases he : (b == 101) = true
      · rw [if_pos he, if_pos he]
        refine ⟨1, rfl, Nat.le_add_left _ _, fun v c r hr => ?_⟩
        cases hr; exact ⟨Nat.le_of_eq (Nat.add_comm _ _), Nat.le_refl _⟩
      · rw [if_neg he, if_neg he]; exact .err (Nat.le_add_left _ _)

theorem intStop_len {v0 : Int} {inp : Bytes} {pos : Nat} {v : Int} {c : Nat} {r : Bytes}
    (h : intStop v0 inp pos = .ok (v, c, r)) : r.length + 1 = inp.length := by
  rcases inp with _ | ⟨b, rest⟩
  · simp [intStop] at h
  · simp only [intStop] at h
    split at h
    · simp only [Res.ok.injEq, Prod.mk.injEq] at h
      simp [h.2.2]
    · cases h

theorem decodeIntC_spec : ∀ (inp : Bytes) (pos : Nat),
    Spent inp (fun _ => 2) (decodeIntC inp pos) (decodeInt inp pos)
  | [], _ => .err (Nat.le_refl _)
  | [b], pos => by
    simp only [decodeIntC, decodeInt, intFirst]
    by_cases hb : (b == 105) = true
    · rw [if_pos hb, if_pos hb]; exact .err (Nat.le_refl _)
    · rw [if_neg hb, if_neg hb]; exact .err (Nat.le_add_left _ _)
  | b :: b1 :: rest1, pos => by
    simp only [decodeIntC, decodeInt, intFirst]
    by_cases hb : (b == 105) = true
    · rw [if_pos hb, if_pos hb]
      by_cases h1 : isNonZeroDigit b1 = true
      · rw [if_pos h1, if_pos h1]
        exact (intDigitsC_spec false rest1 _ (pos + 2)).step 2 (Nat.le_refl _) fun _ => by omega
      rw [if_neg h1, if_neg h1]
      by_cases h0 : (b1 == 48) = true
      · rw [if_pos h0, if_pos h0]
        refine ⟨3, rfl, Nat.le_add_left _ _, fun v c r hr => ?_⟩
        have := intStop_len hr
        simp only [List.length_cons]; omega
      rw [if_neg h0, if_neg h0]
      by_cases hm : (b1 == 45) = true
      · rw [if_pos hm, if_pos hm]
        cases rest1 with
        | nil => exact .err (Nat.le_refl _)
        | cons b2 rest2 =>
          simp only [intNonZero]
          by_cases h2 : isNonZeroDigit b2 = true
          · rw [if_pos h2, if_pos h2]
            exact (intDigitsC_spec true rest2 _ (pos + 3)).step 3 (Nat.le_refl _) fun _ => by omega
          · rw [if_neg h2, if_neg h2]; exact .err (Nat.le_add_left _ _)
      · rw [if_neg hm, if_neg hm]; exact .err (Nat.le_add_left _ _)
    · rw [if_neg hb, if_neg hb]; exact .err (Nat.le_add_left _ _)

theorem strChars_len {n : Nat} {inp : Bytes} {pos : Nat} {v : Bytes} {c : Nat} {r : Bytes}
    (h : strChars n inp pos = .ok (v, c, r)) : n + r.length = inp.length ∧ v.length = n := by
  rcases inp with _ | ⟨b, rest⟩
  · simp [strChars] at h
  · simp only [strChars] at h
    split at h
    · cases h
    · rename_i hn
      simp only [Res.ok.injEq, Prod.mk.injEq] at h
      rw [← h.1, ← h.2.2]
      simp only [List.length_take, List.length_drop]
      omega

theorem strDigitsC_spec : ∀ (inp : Bytes) (n pos : Nat),
    Spent inp (fun v => v.length + 1) (strDigitsC inp n pos) (strDigits inp n pos)
  | [], _, _ => .err (Nat.le_refl _)
  | b :: rest, n, pos => by
    simp only [strDigitsC, strDigits]
    by_cases hd : isDigit b = true
    · rw [if_pos hd, if_pos hd]
      by_cases hm : n * 10 > usizeMax
      · rw [if_pos hm, if_pos hm]; exact .err (Nat.le_add_left _ _)
      rw [if_neg hm, if_neg hm]
      by_cases ha : n * 10 + digitVal b > usizeMax
      · rw [if_pos ha, if_pos ha]; exact .err (Nat.le_add_left _ _)
      rw [if_neg ha, if_neg ha]
      exact (strDigitsC_spec rest _ (pos + 1)).step 1 (Nat.le_refl _) fun _ => Nat.le_add_right _ _
    · rw [if_neg hd, if_neg hd]
      by_cases hc : (b == 58) = true
      · rw [if_pos hc, if_pos hc]
        cases hs : strChars n rest (pos + 1) with
        | ok x =>
          obtain ⟨v, c, r⟩ := x
          have := strChars_len hs
          refine ⟨_, rfl, by simp only [List.length_cons]; omega, fun v' c' r' hr => ?_⟩
          cases hr
          simp only [List.length_cons]; omega
        | err => exact .err (Nat.le_add_left _ _)
        | panic => exact ⟨_, rfl, Nat.le_add_left _ _, nofun⟩
      · rw [if_neg hc, if_neg hc]; exact .err (Nat.le_add_left _ _)

theorem strSep_len {inp : Bytes} {pos : Nat} {v : Bytes} {c : Nat} {r : Bytes}
    (h : strSep inp pos = .ok (v, c, r)) : r.length + 1 = inp.length ∧ v.length = 0 := by
  rcases inp with _ | ⟨b, rest⟩
  · simp [strSep] at h
  · simp only [strSep] at h
    split at h
    · simp only [Res.ok.injEq, Prod.mk.injEq] at h
      simp [← h.1, ← h.2.2]
    · cases h

theorem decodeStrC_spec : ∀ (inp : Bytes) (pos : Nat),
    Spent inp (fun v => v.length + 2) (decodeStrC inp pos) (decodeStr inp pos)
  | [], _ => .err (Nat.le_refl _)
  | b :: rest, pos => by
    simp only [decodeStrC, decodeStr]
    by_cases h0 : (b == 48) = true
    · rw [if_pos h0, if_pos h0]
      refine ⟨2, rfl, Nat.le_add_left _ _, fun v c r hr => ?_⟩
      have := strSep_len hr
      simp only [List.length_cons]; omega
    rw [if_neg h0, if_neg h0]
    by_cases h1 : isNonZeroDigit b = true
    · rw [if_pos h1, if_pos h1]
      exact (strDigitsC_spec rest _ (pos + 1)).step 1 (Nat.le_refl _) fun _ => Nat.le_refl _
    · rw [if_neg h1, if_neg h1]; exact .err (Nat.le_add_left _ _)

theorem decodeStrTokC_spec (inp : Bytes) (pos : Nat) :
    ∃ n, decodeStrTokC inp pos = (decodeStrTok inp pos, n) ∧ n ≤ inp.length + 1 ∧
      ∀ k r, decodeStrTok inp pos = .ok (k, r) → n + r.length ≤ inp.length ∧ k.val.length + 2 ≤ n := by
  obtain ⟨n, h, hn, hok⟩ := decodeStrC_spec inp pos
  unfold decodeStrTokC decodeStrTok
  rw [h]
  cases hs : decodeStr inp pos with
  | ok x =>
    obtain ⟨v, c, r⟩ := x
    refine ⟨n, rfl, hn, fun k r' hr => ?_⟩
    cases hr
    exact hok v c r hs
  | err => exact ⟨n, rfl, hn, nofun⟩
  | panic => exact ⟨n, rfl, hn, nofun⟩

theorem bytesLtCost_le (a b : Bytes) : bytesLtCost a b ≤ b.length + 1 := by
  unfold bytesLtCost; omega

/-! ### values, lists, dictionaries -/

/-- `p` is the result `a` with a count `n ≤ 2·|inp| + slack`; on success `n + 1` is at most twice the bytes consumed -/
def Paid (inp : Bytes) (slack : Nat) (p : Res (Tok × Bytes) × Nat) (a : Res (Tok × Bytes)) : Prop :=
  ∃ n, p = (a, n) ∧ n ≤ 2 * inp.length + slack ∧ ∀ t r, a = .ok (t, r) → n + 1 + 2 * r.length ≤ 2 * inp.length

theorem Paid.err {inp : Bytes} {slack m : Nat} (h : m ≤ 2 * inp.length + slack) : Paid inp slack (.err, m) .err :=
  ⟨m, rfl, h, nofun⟩

theorem Paid.panic {inp : Bytes} {slack m : Nat} (h : m ≤ 2 * inp.length + slack) :
    Paid inp slack (.panic, m) .panic :=
  ⟨m, rfl, h, nofun⟩

/-- one more step for the opening byte of a list or dictionary -/
theorem Paid.enter {rest : Bytes} {p : Res (Tok × Bytes) × Nat} {a : Res (Tok × Bytes)} (h : Paid rest 2 p a)
    (b : UInt8) : Paid (b :: rest) 1 (p.1, p.2 + 1) a := by
  obtain ⟨n, rfl, hn, hok⟩ := h
  refine ⟨n + 1, rfl, by simp only [List.length_cons]; omega, fun t r hr => ?_⟩
  have := hok t r hr
  simp only [List.length_cons]; omega

theorem decodeAllC_spec : ∀ fuel : Nat,
    (∀ inp pos, Paid inp 1 (decodeAnyC fuel inp pos) (decodeAny fuel inp pos)) ∧
    (∀ inp pos start acc,
      Paid inp 2 (decodeListLoopC fuel inp pos start acc) (decodeListLoop fuel inp pos start acc)) ∧
    (∀ inp pos start ks vs,
      Paid inp 2 (decodeDictLoopC fuel inp pos start ks vs) (decodeDictLoop fuel inp pos start ks vs)) := by
  intro fuel
  induction fuel with
  | zero =>
    refine ⟨fun inp pos => ?_, fun inp pos start acc => ?_, fun inp pos start ks vs => ?_⟩
    · rw [decodeAnyC, decodeAny]; exact .err (by omega)
    · rw [decodeListLoopC, decodeListLoop]; exact .err (by omega)
    · rw [decodeDictLoopC, decodeDictLoop]; exact .err (by omega)
  | succ fuel ih =>
    obtain ⟨ihA, ihL, ihD⟩ := ih
    refine ⟨?_, ?_, ?_⟩
    · intro inp pos
      cases inp with
      | nil => rw [decodeAnyC, decodeAny]; exact .err (by omega)
      | cons b rest =>
      have hlen : (b :: rest).length = rest.length + 1 := rfl
      rw [decodeAnyC, decodeAny]
      by_cases hd : isDigit b = true
      · rw [if_pos hd, if_pos hd]
        obtain ⟨n, h, hn, hok⟩ := decodeStrTokC_spec (b :: rest) pos
        rw [h]
        cases hs : decodeStrTok (b :: rest) pos with
        | ok x =>
          obtain ⟨k, r⟩ := x
          have := hok k r hs
          refine ⟨_, rfl, by omega, fun t r' hr => ?_⟩
          cases hr; omega
        | err => exact .err (by omega)
        | panic => exact .panic (by omega)
      rw [if_neg hd, if_neg hd]
      by_cases hi : (b == 105) = true
      · rw [if_pos hi, if_pos hi]
        obtain ⟨n, h, hn, hok⟩ := decodeIntC_spec (b :: rest) pos
        rw [h]
        cases hs : decodeInt (b :: rest) pos with
        | ok x =>
          obtain ⟨v, c, r⟩ := x
          have : _ ∧ 2 ≤ n := hok v c r hs
          refine ⟨_, rfl, by omega, fun t r' hr => ?_⟩
          cases hr; omega
        | err => exact .err (by omega)
        | panic => exact .panic (by omega)
      rw [if_neg hi, if_neg hi]
      by_cases hl : (b == 108) = true
      · rw [if_pos hl, if_pos hl]; exact (ihL rest (pos + 1) pos []).enter b
      rw [if_neg hl, if_neg hl]
      by_cases hdc : (b == 100) = true
      · rw [if_pos hdc, if_pos hdc]; exact (ihD rest (pos + 1) pos [] []).enter b
      · rw [if_neg hdc, if_neg hdc]; exact .err (by omega)
    · intro inp pos start acc
      cases inp with
      | nil => rw [decodeListLoopC, decodeListLoop]; exact .err (by omega)
      | cons b rest =>
      have hlen : (b :: rest).length = rest.length + 1 := rfl
      rw [decodeListLoopC, decodeListLoop]
      by_cases hv : isValueStart b = true
      · rw [if_pos hv, if_pos hv]
        obtain ⟨n, h, hn, hok⟩ := ihA (b :: rest) pos
        rw [h]
        cases hs : decodeAny fuel (b :: rest) pos with
        | ok x =>
          obtain ⟨t, r⟩ := x
          have := hok t r hs
          obtain ⟨m, h', hm, hok'⟩ := ihL r t.cont start (t :: acc)
          dsimp only
          rw [h']
          refine ⟨_, rfl, by omega, fun t' r' hr => ?_⟩
          have := hok' t' r' hr
          omega
        | err => exact .err (by omega)
        | panic => exact .panic (by omega)
      rw [if_neg hv, if_neg hv]
      by_cases he : (b == 101) = true
      · rw [if_pos he, if_pos he]
        refine ⟨1, rfl, by omega, fun t r hr => ?_⟩
        cases hr; omega
      · rw [if_neg he, if_neg he]; exact .err (by omega)
    · intro inp pos start ks vs
      cases inp with
      | nil => rw [decodeDictLoopC, decodeDictLoop]; exact .err (by omega)
      | cons b rest =>
      have hlen : (b :: rest).length = rest.length + 1 := rfl
      rw [decodeDictLoopC, decodeDictLoop]
      by_cases hd : isDigit b = true
      · rw [if_pos hd, if_pos hd]
        obtain ⟨n, h, hn, hok⟩ := decodeStrTokC_spec (b :: rest) pos
        rw [h]
        cases hs : decodeStrTok (b :: rest) pos with
        | err => exact .err (by omega)
        | panic => exact .panic (by omega)
        | ok x =>
          obtain ⟨k, r⟩ := x
          have := hok k r hs
          dsimp -zeta only
          extract_lets cmp okOrderC okOrder
          have hcmp : cmp ≤ k.val.length + 1 := by
            cases ks with
            | nil => exact Nat.zero_le _
            | cons last _ => exact bytesLtCost_le _ _
          have ho : okOrderC = okOrder := rfl
          clear_value cmp okOrderC okOrder
          subst ho
          cases okOrderC with
          | false => exact .err (by omega)
          | true =>
          rw [if_pos rfl, if_pos rfl]
          cases r with
          | nil => exact .err (by omega)
          | cons b2 r' =>
          have hlen' : (b2 :: r').length = r'.length + 1 := rfl
          dsimp only
          by_cases hv : isValueStart b2 = true
          · rw [if_pos hv, if_pos hv]
            obtain ⟨m, h', hm, hok'⟩ := ihA (b2 :: r') k.c
            rw [h']
            cases hs' : decodeAny fuel (b2 :: r') k.c with
            | ok x =>
              obtain ⟨t, r2⟩ := x
              have := hok' t r2 hs'
              obtain ⟨q, h'', hq, hok''⟩ := ihD r2 t.cont start (k :: ks) (t :: vs)
              dsimp only
              rw [h'']
              refine ⟨_, rfl, by omega, fun t' r'' hr => ?_⟩
              have := hok'' t' r'' hr
              omega
            | err => exact .err (by omega)
            | panic => exact .panic (by omega)
          · rw [if_neg hv, if_neg hv]; exact .err (by omega)
      rw [if_neg hd, if_neg hd]
      by_cases he : (b == 101) = true
      · rw [if_pos he, if_pos he]
        refine ⟨1, rfl, by omega, fun t r hr => ?_⟩
        cases hr; omega
      · rw [if_neg he, if_neg he]; exact .err (by omega)

theorem decodeC_spec (inp : Bytes) : ∃ n, decodeC inp = (decode inp, n) ∧ n ≤ 2 * inp.length + 2 := by
  obtain ⟨n, h, hn, _⟩ := (decodeAllC_spec (2 * inp.length + 2)).1 inp 0
  unfold decodeC decode
  rw [h]
  cases decodeAny (2 * inp.length + 2) inp 0 with
  | ok x =>
    obtain ⟨t, r⟩ := x
    cases r <;> exact ⟨_, rfl, by omega⟩
  | err => exact ⟨_, rfl, by omega⟩
  | panic => exact ⟨_, rfl, by omega⟩

end TB.Cost
