/-
  The state monad of TB.Model.Run: one logged operation, the writer cut into the single segment writes it
  performs, and `preload` one segment at a time.
  (`St.readBytes`, `scanSingle`, `preloadSeg` and `solvePiece` are walked by their own principles: `fun_cases`,
  `fun_induction`. The first walks of `St.readBytes` and `solvePiece` are `readBytes_trace` and `solvePiece_trace`
  in TB.Lemmas.Run; a module that walks them must import that one, since the auxiliary declarations `fun_cases`
  makes may exist only once.)

  Everything a function of the model does to a state `St` is a sequence of `St.op` calls. Two relations record
  that: `Ext P` (TB.Lemmas.Run: the log grows by operations satisfying `P`) and `RD.Reach` (the tree is the replay
  of the new log entries). `Trace P` is their conjunction, so that every function of the model is walked once for
  both. `RC.ROExt` is read off `Trace`; relations that cannot be (`RB.Follows`, `RD.AllOk`, `RunF.Loc`) have their own
  walk.
-/
import TB.Spec.ExportSpec
namespace TB

theorem St.op_fault {st : St} (kind : OpKind) (path : Path) (natural : Fs → Fs × Bool)
    (h : st.faults.contains st.ops.length = true) :
    st.op kind path natural = ({ st with ops := st.ops ++ [⟨kind, path, false⟩] }, false) := by
  unfold St.op; rw [if_pos h]

theorem St.op_nofault {st : St} (kind : OpKind) (path : Path) (natural : Fs → Fs × Bool)
    (h : st.faults.contains st.ops.length = false) :
    st.op kind path natural =
      ({ st with fs := (natural st.fs).1, ops := st.ops ++ [⟨kind, path, (natural st.fs).2⟩] }, (natural st.fs).2) := by
  unfold St.op; rw [if_neg (by rw [h]; exact Bool.false_ne_true)]

theorem St.op_spec {st st1 : St} {ok : Bool} {k : OpKind} {p : Path} {n : Fs → Fs × Bool}
    (h : st.op k p n = (st1, ok)) :
    st1.ops = st.ops ++ [⟨k, p, ok⟩] ∧ st1.faults = st.faults ∧
      ((st.faults.contains st.ops.length = true ∧ st1.fs = st.fs ∧ ok = false) ∨
       (st.faults.contains st.ops.length = false ∧ st1.fs = (n st.fs).1 ∧ ok = (n st.fs).2)) := by
  cases hc : st.faults.contains st.ops.length
  · rw [St.op_nofault _ _ _ hc] at h
    cases h
    exact ⟨rfl, rfl, Or.inr ⟨rfl, rfl, rfl⟩⟩
  · rw [St.op_fault _ _ _ hc] at h
    cases h
    exact ⟨rfl, rfl, Or.inl ⟨rfl, rfl, rfl⟩⟩

theorem St.op_ops {st st1 : St} {ok : Bool} {k : OpKind} {p : Path} {n : Fs → Fs × Bool}
    (h : st.op k p n = (st1, ok)) : st1.ops = st.ops ++ [⟨k, p, ok⟩] := (St.op_spec h).1

theorem St.op_faults {st st1 : St} {ok : Bool} {k : OpKind} {p : Path} {n : Fs → Fs × Bool}
    (h : st.op k p n = (st1, ok)) : st1.faults = st.faults := (St.op_spec h).2.1

theorem St.op_fst_ops (st : St) (k : OpKind) (p : Path) (n : Fs → Fs × Bool) :
    (st.op k p n).1.ops = st.ops ++ [⟨k, p, (st.op k p n).2⟩] := St.op_ops rfl

theorem St.op_fst_faults (st : St) (k : OpKind) (p : Path) (n : Fs → Fs × Bool) :
    (st.op k p n).1.faults = st.faults := St.op_faults (ok := (st.op k p n).2) rfl

theorem St.op_fs {st st1 : St} {ok : Bool} {k : OpKind} {p : Path} {n : Fs → Fs × Bool}
    (h : st.op k p n = (st1, ok)) : (st1.fs = st.fs ∧ ok = false) ∨ (st1.fs = (n st.fs).1 ∧ ok = (n st.fs).2) :=
  (St.op_spec h).2.2.imp And.right And.right

theorem St.op_fs_same {st st1 : St} {ok : Bool} {k : OpKind} {p : Path} {n : Fs → Fs × Bool}
    (h : st.op k p n = (st1, ok)) (hn : (n st.fs).1 = st.fs) : st1.fs = st.fs := by
  rcases St.op_fs h with ⟨h1, _⟩ | ⟨h1, _⟩
  · exact h1
  · rw [h1, hn]

theorem St.op_ok {st st1 : St} {k : OpKind} {p : Path} {n : Fs → Fs × Bool} (h : st.op k p n = (st1, true)) :
    st.faults.contains st.ops.length = false ∧ st1.fs = (n st.fs).1 ∧ (n st.fs).2 = true := by
  rcases (St.op_spec h).2.2 with ⟨_, _, h3⟩ | ⟨h1, h2, h3⟩
  · cases h3
  · exact ⟨h1, h2, h3.symm⟩

/-- the operations `writeSegs` issues for one segment that is neither padding nor matched in its own image;
    `none` = all succeeded, go on with the next segment -/
def writeOne (st : St) (seg : WSeg) (buf : Bytes) (start : Nat) : St × Option Solved :=
  let target := seg.ent.fullTarget
  let (st1, ok1) := st.op .mkdirs target.dropLast (fun fs => fs.mkdirs target.dropLast)
  if !ok1 then (st1, some .fault) else
  let (st2, ok2) := st1.op .openc target (fun fs => let r := fs.openCreate target; (r.1, r.2.isSome))
  if !ok2 then (st2, some .fault) else
  match st2.fs.look target with
  | .file i =>
    let (st3, ok3) := st2.op (.setlen seg.ent.fileLength) target (fun fs => (fs.setLen i seg.ent.fileLength, true))
    if !ok3 then (st3, some .fault) else
    let (st4, ok4) := st3.op (.seek seg.off) target (fun fs => (fs, true))
    if !ok4 then (st4, some .fault) else
    if buf.length < start + seg.len then (st4, some .fault) else
    let data := (buf.drop start).take seg.len
    let (st5, ok5) := st4.op (.write seg.off data) target (fun fs => (fs.writeAt i seg.off data, true))
    if !ok5 then (st5, some .fault) else (st5, none)
  | _ => (st2, some .fault)

/-- The ways through `writeOne`, each with the states it passes and the `St.op` equations that lead there.
    From `setlen` on, both name-changing operations have succeeded and the image is the regular file `i`. -/
inductive WriteOne (st : St) (seg : WSeg) (buf : Bytes) (start : Nat) : St → Option Solved → Prop
  | mkdirs {st1 : St}
      (h1 : st.op .mkdirs seg.ent.fullTarget.dropLast (fun fs => fs.mkdirs seg.ent.fullTarget.dropLast) = (st1, false)) :
      WriteOne st seg buf start st1 (some .fault)
  | openc {st1 st2 : St}
      (h1 : st.op .mkdirs seg.ent.fullTarget.dropLast (fun fs => fs.mkdirs seg.ent.fullTarget.dropLast) = (st1, true))
      (h2 : st1.op .openc seg.ent.fullTarget
        (fun fs => ((fs.openCreate seg.ent.fullTarget).1, (fs.openCreate seg.ent.fullTarget).2.isSome)) = (st2, false)) :
      WriteOne st seg buf start st2 (some .fault)
  | notFile {st1 st2 : St}
      (h1 : st.op .mkdirs seg.ent.fullTarget.dropLast (fun fs => fs.mkdirs seg.ent.fullTarget.dropLast) = (st1, true))
      (h2 : st1.op .openc seg.ent.fullTarget
        (fun fs => ((fs.openCreate seg.ent.fullTarget).1, (fs.openCreate seg.ent.fullTarget).2.isSome)) = (st2, true))
      (hl : ∀ i, st2.fs.look seg.ent.fullTarget ≠ .file i) :
      WriteOne st seg buf start st2 (some .fault)
  | setlen {st1 st2 st3 : St} {i : Nat}
      (h1 : st.op .mkdirs seg.ent.fullTarget.dropLast (fun fs => fs.mkdirs seg.ent.fullTarget.dropLast) = (st1, true))
      (h2 : st1.op .openc seg.ent.fullTarget
        (fun fs => ((fs.openCreate seg.ent.fullTarget).1, (fs.openCreate seg.ent.fullTarget).2.isSome)) = (st2, true))
      (hl : st2.fs.look seg.ent.fullTarget = .file i)
      (h3 : st2.op (.setlen seg.ent.fileLength) seg.ent.fullTarget
        (fun fs => (fs.setLen i seg.ent.fileLength, true)) = (st3, false)) :
      WriteOne st seg buf start st3 (some .fault)
  | seek {st1 st2 st3 st4 : St} {i : Nat}
      (h1 : st.op .mkdirs seg.ent.fullTarget.dropLast (fun fs => fs.mkdirs seg.ent.fullTarget.dropLast) = (st1, true))
      (h2 : st1.op .openc seg.ent.fullTarget
        (fun fs => ((fs.openCreate seg.ent.fullTarget).1, (fs.openCreate seg.ent.fullTarget).2.isSome)) = (st2, true))
      (hl : st2.fs.look seg.ent.fullTarget = .file i)
      (h3 : st2.op (.setlen seg.ent.fileLength) seg.ent.fullTarget
        (fun fs => (fs.setLen i seg.ent.fileLength, true)) = (st3, true))
      (h4 : st3.op (.seek seg.off) seg.ent.fullTarget (fun fs => (fs, true)) = (st4, false)) :
      WriteOne st seg buf start st4 (some .fault)
  | short {st1 st2 st3 st4 : St} {i : Nat}
      (h1 : st.op .mkdirs seg.ent.fullTarget.dropLast (fun fs => fs.mkdirs seg.ent.fullTarget.dropLast) = (st1, true))
      (h2 : st1.op .openc seg.ent.fullTarget
        (fun fs => ((fs.openCreate seg.ent.fullTarget).1, (fs.openCreate seg.ent.fullTarget).2.isSome)) = (st2, true))
      (hl : st2.fs.look seg.ent.fullTarget = .file i)
      (h3 : st2.op (.setlen seg.ent.fileLength) seg.ent.fullTarget
        (fun fs => (fs.setLen i seg.ent.fileLength, true)) = (st3, true))
      (h4 : st3.op (.seek seg.off) seg.ent.fullTarget (fun fs => (fs, true)) = (st4, true))
      (hlen : buf.length < start + seg.len) :
      WriteOne st seg buf start st4 (some .fault)
  | write {st1 st2 st3 st4 st5 : St} {i : Nat}
      (h1 : st.op .mkdirs seg.ent.fullTarget.dropLast (fun fs => fs.mkdirs seg.ent.fullTarget.dropLast) = (st1, true))
      (h2 : st1.op .openc seg.ent.fullTarget
        (fun fs => ((fs.openCreate seg.ent.fullTarget).1, (fs.openCreate seg.ent.fullTarget).2.isSome)) = (st2, true))
      (hl : st2.fs.look seg.ent.fullTarget = .file i)
      (h3 : st2.op (.setlen seg.ent.fileLength) seg.ent.fullTarget
        (fun fs => (fs.setLen i seg.ent.fileLength, true)) = (st3, true))
      (h4 : st3.op (.seek seg.off) seg.ent.fullTarget (fun fs => (fs, true)) = (st4, true))
      (hlen : start + seg.len ≤ buf.length)
      (h5 : st4.op (.write seg.off ((buf.drop start).take seg.len)) seg.ent.fullTarget
        (fun fs => (fs.writeAt i seg.off ((buf.drop start).take seg.len), true)) = (st5, false)) :
      WriteOne st seg buf start st5 (some .fault)
  | done {st1 st2 st3 st4 st5 : St} {i : Nat}
      (h1 : st.op .mkdirs seg.ent.fullTarget.dropLast (fun fs => fs.mkdirs seg.ent.fullTarget.dropLast) = (st1, true))
      (h2 : st1.op .openc seg.ent.fullTarget
        (fun fs => ((fs.openCreate seg.ent.fullTarget).1, (fs.openCreate seg.ent.fullTarget).2.isSome)) = (st2, true))
      (hl : st2.fs.look seg.ent.fullTarget = .file i)
      (h3 : st2.op (.setlen seg.ent.fileLength) seg.ent.fullTarget
        (fun fs => (fs.setLen i seg.ent.fileLength, true)) = (st3, true))
      (h4 : st3.op (.seek seg.off) seg.ent.fullTarget (fun fs => (fs, true)) = (st4, true))
      (hlen : start + seg.len ≤ buf.length)
      (h5 : st4.op (.write seg.off ((buf.drop start).take seg.len)) seg.ent.fullTarget
        (fun fs => (fs.writeAt i seg.off ((buf.drop start).take seg.len), true)) = (st5, true)) :
      WriteOne st seg buf start st5 none

theorem writeOne_spec (st : St) (seg : WSeg) (buf : Bytes) (start : Nat) :
    WriteOne st seg buf start (writeOne st seg buf start).1 (writeOne st seg buf start).2 := by
  unfold writeOne
  dsimp only
  rcases h1 : st.op .mkdirs seg.ent.fullTarget.dropLast (fun fs => fs.mkdirs seg.ent.fullTarget.dropLast)
    with ⟨st1, _ | _⟩
  · exact .mkdirs h1
  rcases h2 : st1.op .openc seg.ent.fullTarget
    (fun fs => ((fs.openCreate seg.ent.fullTarget).1, (fs.openCreate seg.ent.fullTarget).2.isSome)) with ⟨st2, _ | _⟩
  · exact .openc h1 h2
  cases hl : st2.fs.look seg.ent.fullTarget with
  | file i =>
    dsimp only
    rcases h3 : st2.op (.setlen seg.ent.fileLength) seg.ent.fullTarget
      (fun fs => (fs.setLen i seg.ent.fileLength, true)) with ⟨st3, _ | _⟩
    · exact .setlen h1 h2 hl h3
    rcases h4 : st3.op (.seek seg.off) seg.ent.fullTarget (fun fs => (fs, true)) with ⟨st4, _ | _⟩
    · exact .seek h1 h2 hl h3 h4
    simp only [Bool.not_true, Bool.false_eq_true, if_false]
    by_cases hlen : buf.length < start + seg.len
    · rw [if_pos hlen]; exact .short h1 h2 hl h3 h4 hlen
    rw [if_neg hlen]
    rcases h5 : st4.op (.write seg.off ((buf.drop start).take seg.len)) seg.ent.fullTarget
      (fun fs => (fs.writeAt i seg.off ((buf.drop start).take seg.len), true)) with ⟨st5, _ | _⟩
    · exact .write h1 h2 hl h3 h4 (Nat.le_of_not_lt hlen) h5
    · exact .done h1 h2 hl h3 h4 (Nat.le_of_not_lt hlen) h5
  | notFound => exact .notFile h1 h2 (fun i h => Look.noConfusion (hl.symm.trans h))
  | notDir => exact .notFile h1 h2 (fun i h => Look.noConfusion (hl.symm.trans h))
  | dir => exact .notFile h1 h2 (fun i h => Look.noConfusion (hl.symm.trans h))

theorem WriteOne.eq {st st' : St} {seg : WSeg} {buf : Bytes} {start : Nat} {r : Option Solved}
    (h : WriteOne st seg buf start st' r) : writeOne st seg buf start = (st', r) := by
  unfold writeOne
  cases h with
  | mkdirs h1 => simp only [h1]; rfl
  | openc h1 h2 => simp only [h1, h2]; rfl
  | notFile h1 h2 hl =>
    simp only [h1, h2]
    cases hk : st'.fs.look seg.ent.fullTarget with
    | file i => exact absurd hk (hl i)
    | _ => rfl
  | setlen h1 h2 hl h3 => simp only [h1, h2, hl, h3]; rfl
  | seek h1 h2 hl h3 h4 => simp only [h1, h2, hl, h3, h4]; rfl
  | short h1 h2 hl h3 h4 hlen => simp only [h1, h2, hl, h3, h4, hlen]; rfl
  | write h1 h2 hl h3 h4 hlen h5 => simp only [h1, h2, hl, h3, h4, Nat.not_lt.2 hlen, h5]; rfl
  | done h1 h2 hl h3 h4 hlen h5 => simp only [h1, h2, hl, h3, h4, Nat.not_lt.2 hlen, h5]; rfl

theorem WriteOne.fault {st st' : St} {seg : WSeg} {buf : Bytes} {start : Nat} {r : Solved}
    (h : WriteOne st seg buf start st' (some r)) : r = .fault := by
  cases h <;> rfl

theorem writeSegs_skip {seg : WSeg} {src : Option Path} (h : seg.ent.isPad = true ∨ src = some seg.ent.fullTarget)
    (st : St) (rest : List (WSeg × Option Path)) (buf : Bytes) (start : Nat) :
    writeSegs st ((seg, src) :: rest) buf start = writeSegs st rest buf (start + seg.len) := by
  rw [writeSegs]
  rcases h with h | h
  · exact if_pos h
  · by_cases hp : seg.ent.isPad = true
    · exact if_pos hp
    · rw [if_neg hp, if_pos (by rw [h]; exact beq_self_eq_true _)]

theorem writeSegs_write {seg : WSeg} {src : Option Path} (hp : seg.ent.isPad = false)
    (hs : src ≠ some seg.ent.fullTarget) (st : St) (rest : List (WSeg × Option Path)) (buf : Bytes) (start : Nat) :
    writeSegs st ((seg, src) :: rest) buf start =
      match writeOne st seg buf start with
      | (st', none) => writeSegs st' rest buf (start + seg.len)
      | (st', some r) => (st', r) := by
  rw [writeSegs, if_neg (by rw [hp]; exact Bool.false_ne_true), if_neg (by simpa using hs)]
  unfold writeOne
  dsimp only
  rcases st.op .mkdirs seg.ent.fullTarget.dropLast (fun fs => fs.mkdirs seg.ent.fullTarget.dropLast) with ⟨st1, _ | _⟩
  · rfl
  rcases st1.op .openc seg.ent.fullTarget
    (fun fs => ((fs.openCreate seg.ent.fullTarget).1, (fs.openCreate seg.ent.fullTarget).2.isSome)) with ⟨st2, _ | _⟩
  · rfl
  cases st2.fs.look seg.ent.fullTarget with
  | file i =>
    dsimp only
    rcases st2.op (.setlen seg.ent.fileLength) seg.ent.fullTarget (fun fs => (fs.setLen i seg.ent.fileLength, true))
      with ⟨st3, _ | _⟩
    · rfl
    rcases st3.op (.seek seg.off) seg.ent.fullTarget (fun fs => (fs, true)) with ⟨st4, _ | _⟩
    · rfl
    by_cases hlen : buf.length < start + seg.len
    · rw [if_pos hlen, if_pos hlen]; rfl
    rw [if_neg hlen, if_neg hlen]
    rcases st4.op (.write seg.off ((buf.drop start).take seg.len)) seg.ent.fullTarget
      (fun fs => (fs.writeAt i seg.off ((buf.drop start).take seg.len), true)) with ⟨st5, _ | _⟩ <;> rfl
  | _ => rfl

/-- Induction along `writeSegs` at the granularity of whole segment writes: a segment is skipped (padding, or
    matched in its own image), its write fails, or its write succeeds and the writer goes on. -/
theorem writeSegs_induct (buf : Bytes) {motive : St → List (WSeg × Option Path) → Nat → St × Solved → Prop}
    (nil : ∀ st start, motive st [] start (st, .found))
    (skip : ∀ st seg src rest start, seg.ent.isPad = true ∨ src = some seg.ent.fullTarget →
      motive st rest (start + seg.len) (writeSegs st rest buf (start + seg.len)) →
      motive st ((seg, src) :: rest) start (writeSegs st rest buf (start + seg.len)))
    (fail : ∀ st seg src rest start st', seg.ent.isPad = false → src ≠ some seg.ent.fullTarget →
      WriteOne st seg buf start st' (some .fault) → motive st ((seg, src) :: rest) start (st', .fault))
    (step : ∀ st seg src rest start st', seg.ent.isPad = false → src ≠ some seg.ent.fullTarget →
      WriteOne st seg buf start st' none →
      motive st' rest (start + seg.len) (writeSegs st' rest buf (start + seg.len)) →
      motive st ((seg, src) :: rest) start (writeSegs st' rest buf (start + seg.len)))
    (st : St) (pairs : List (WSeg × Option Path)) (start : Nat) :
    motive st pairs start (writeSegs st pairs buf start) := by
  induction pairs generalizing st start with
  | nil => rw [writeSegs]; exact nil st start
  | cons x rest ih =>
    obtain ⟨seg, src⟩ := x
    by_cases h : seg.ent.isPad = true ∨ src = some seg.ent.fullTarget
    · rw [writeSegs_skip h]; exact skip st seg src rest start h (ih _ _)
    · have hp : seg.ent.isPad = false := by
        cases hp : seg.ent.isPad
        · rfl
        · exact absurd (Or.inl hp) h
      have hs : src ≠ some seg.ent.fullTarget := fun e => h (Or.inr e)
      rw [writeSegs_write hp hs]
      have w := writeOne_spec st seg buf start
      generalize writeOne st seg buf start = x at w ⊢
      rcases x with ⟨st', _ | r⟩
      · exact step st seg src rest start st' hp hs w (ih _ _)
      · cases w.fault
        exact fail st seg src rest start st' hp hs w

theorem writeSegs_found_or_fault (st : St) (pairs : List (WSeg × Option Path)) (buf : Bytes) (start : Nat) :
    (writeSegs st pairs buf start).2 = .found ∨ (writeSegs st pairs buf start).2 = .fault := by
  induction st, pairs, start using writeSegs_induct buf with
  | nil => exact Or.inl rfl
  | skip _ _ _ _ _ _ ih => exact ih
  | fail => exact Or.inr rfl
  | step _ _ _ _ _ _ _ _ _ ih => exact ih

theorem writeSegs_ne_panic (st : St) (pairs : List (WSeg × Option Path)) (buf : Bytes) (start : Nat) :
    (writeSegs st pairs buf start).2 ≠ .panic := by
  rcases writeSegs_found_or_fault st pairs buf start with h | h <;> rw [h] <;> exact Solved.noConfusion

theorem writeSegs_ne_notFound (st : St) (pairs : List (WSeg × Option Path)) (buf : Bytes) (start : Nat) :
    (writeSegs st pairs buf start).2 ≠ .notFound := by
  rcases writeSegs_found_or_fault st pairs buf start with h | h <;> rw [h] <;> exact Solved.noConfusion

theorem mapM_eq_some {α β : Type} {f : α → Option β} {l : List α} {r : List β} :
    l.mapM f = some r ↔ l.map f = r.map some := by
  induction l generalizing r with
  | nil => cases r <;> simp
  | cons a l ih =>
    rw [List.mapM_cons]
    cases r with
    | nil => cases f a <;> cases l.mapM f <;> simp
    | cons b r =>
      rw [List.map_cons, List.map_cons, List.cons.injEq, ← ih]
      cases f a <;> cases l.mapM f <;> simp

theorem mapM_cons_some {α β : Type} {f : α → Option β} {a : α} {l : List α} {r : List β}
    (h : (a :: l).mapM f = some r) : ∃ b bs, f a = some b ∧ l.mapM f = some bs ∧ r = b :: bs := by
  rw [mapM_eq_some, List.map_cons] at h
  cases r with
  | nil => cases h
  | cons b bs =>
    rw [List.map_cons, List.cons.injEq] at h
    exact ⟨b, bs, h.1, mapM_eq_some.2 h.2, rfl⟩

theorem mapM_option_mem {α β : Type} {f : α → Option β} {l : List α} {r : List β} (h : l.mapM f = some r) :
    ∀ b ∈ r, ∃ a ∈ l, f a = some b := by
  intro b hb
  have : some b ∈ l.map f := mapM_eq_some.1 h ▸ List.mem_map_of_mem hb
  exact List.mem_map.1 this

theorem mapM_some_all {α β : Type} {f : α → Option β} {l : List α} {ys : List β}
    (h : l.mapM f = some ys) : ∀ a ∈ l, ∃ b, f a = some b := by
  intro a ha
  have : f a ∈ ys.map some := mapM_eq_some.1 h ▸ List.mem_map_of_mem ha
  obtain ⟨b, _, hb⟩ := List.mem_map.1 this
  exact ⟨b, hb.symm⟩

theorem mapM_option_some {α β : Type} {f : α → Option β} {l : List α} {ys : List β}
    (h : l.mapM f = some ys) (d : β) : ys = l.map (fun a => (f a).getD d) := by
  have := congrArg (List.map (·.getD d)) (mapM_eq_some.1 h)
  simpa [List.map_map, Function.comp_def] using this.symm

theorem mapM_index {α β : Type} {f : α → Option β} {l : List α} {r : List β} (h : l.mapM f = some r) :
    r.length = l.length ∧ ∀ (i : Nat) b, r[i]? = some b → ∃ a, l[i]? = some a ∧ f a = some b := by
  have e := mapM_eq_some.1 h
  refine ⟨by simpa using (congrArg List.length e).symm, fun i b hb => ?_⟩
  have := congrArg (·[i]?) e
  simp only [List.getElem?_map, hb, Option.map_some] at this
  cases ha : l[i]? with
  | none => rw [ha] at this; cases this
  | some a => rw [ha] at this; exact ⟨a, rfl, Option.some.inj this⟩

theorem mapM_singleton {α β : Type} (f : α → Option β) (l : List α) (b : β) (h : l.mapM f = some [b]) :
    ∃ a, l = [a] ∧ f a = some b := by
  obtain ⟨hlen, hidx⟩ := mapM_index h
  obtain ⟨a, rfl⟩ := List.length_eq_one_iff.1 hlen.symm
  obtain ⟨a', ha', hf⟩ := hidx 0 b rfl
  cases ha'
  exact ⟨a, rfl, hf⟩

theorem mapM_isSome {α β : Type} (f : α → Option β) (l : List α) (h : ∀ a ∈ l, (f a).isSome = true) :
    (l.mapM f).isSome = true := by
  induction l with
  | nil => rfl
  | cons a l ih =>
    obtain ⟨b, hb⟩ := Option.isSome_iff_exists.1 (h a List.mem_cons_self)
    obtain ⟨bs, hbs⟩ := Option.isSome_iff_exists.1 (ih fun x hx => h x (List.mem_cons_of_mem _ hx))
    rw [List.mapM_cons, hb, hbs]
    rfl

theorem mapM_of_zip {α β : Type} (f : α → Option β) (l : List α) (ys : List β) (hl : l.length = ys.length)
    (h : ∀ x ∈ List.zip l ys, f x.1 = some x.2) : l.mapM f = some ys := by
  rw [mapM_eq_some]
  refine List.ext_getElem (by simpa using hl) fun i h1 h2 => ?_
  have hi : i < (List.zip l ys).length := by simp at h1 h2 ⊢; omega
  have := h _ (List.getElem_mem hi)
  simpa using this

theorem mapM_option_rel {α β γ : Type} {f : α → Option β} {f' : α → Option γ} {g : β → γ} {l : List α} {r : List β}
    (h : ∀ a ∈ l, ∀ b, f a = some b → f' a = some (g b)) (hm : l.mapM f = some r) :
    l.mapM f' = some (r.map g) := by
  induction l generalizing r with
  | nil => simp at hm ⊢; subst hm; rfl
  | cons a l ih =>
    obtain ⟨b, bs, hb, hbs, rfl⟩ := mapM_cons_some hm
    rw [List.mapM_cons, h a List.mem_cons_self b hb, ih (fun x hx => h x (List.mem_cons_of_mem _ hx)) hbs]
    rfl

theorem mapM_some_congr {α β : Type} {f g : α → Option β} {l : List α} {r : List β}
    (hfg : ∀ x ∈ l, ∀ b, f x = some b → g x = some b) (h : l.mapM f = some r) : l.mapM g = some r := by
  simpa using mapM_option_rel (g := id) hfg h

theorem firstM_option_some {α β : Type} {f : α → Option β} {l : List α} {r : β}
    (h : l.firstM f = some r) : ∃ c ∈ l, f c = some r := by
  induction l with
  | nil => simp [List.firstM] at h
  | cons a as ih =>
    cases ha : f a with
    | some b =>
      simp [List.firstM, ha] at h
      exact ⟨a, by simp, by rw [ha, h]⟩
    | none =>
      simp [List.firstM, ha] at h
      obtain ⟨c, hc, hfc⟩ := ih h
      exact ⟨c, by simp [hc], hfc⟩

theorem Res.isOk_map {α β : Type} (f : α → β) (r : Res α) : (r.map f).isOk = r.isOk := by
  cases r <;> rfl

theorem Res.map_eq_ok {α β : Type} {f : α → β} {x : St × Res α} {st' : St} {b : β}
    (h : (x.1, x.2.map f) = (st', .ok b)) : ∃ a, x = (st', .ok a) ∧ f a = b := by
  obtain ⟨st1, _ | _ | _⟩ := x <;> cases h
  exact ⟨_, rfl, rfl⟩

theorem preload_cons_pad {seg : WSeg} (hpad : seg.ent.isPad = true) (st : St) (rest : List WSeg) :
    preload st (seg :: rest) =
      ((preload st rest).1, (preload st rest).2.map ([(none, List.replicate seg.len 0)] :: ·)) := by
  rw [preload, if_pos hpad]
  rcases preload st rest with ⟨st1, _ | _ | _⟩ <;> rfl

theorem preload_cons_empty {seg : WSeg} (hpad : seg.ent.isPad = false) (hs : seg.ent.searches = none) (st : St)
    (rest : List WSeg) :
    preload st (seg :: rest) = ((preload st rest).1, (preload st rest).2.map ([(none, [])] :: ·)) := by
  rw [preload, if_neg (by rw [hpad]; exact Bool.false_ne_true), hs]
  rcases preload st rest with ⟨st1, _ | _ | _⟩ <;> rfl

theorem preload_cons_paths {seg : WSeg} {paths : List Path} (hpad : seg.ent.isPad = false)
    (hs : seg.ent.searches = some paths) (st : St) (rest : List WSeg) :
    preload st (seg :: rest) =
      match preloadSeg seg st paths [] with
      | (st1, .ok r) => ((preload st1 rest).1, (preload st1 rest).2.map (r :: ·))
      | (st1, .err) => (st1, .err)
      | (st1, .panic) => (st1, .panic) := by
  rw [preload, if_neg (by rw [hpad]; exact Bool.false_ne_true), hs]
  dsimp only
  rcases preloadSeg seg st paths [] with ⟨st1, r | _ | _⟩
  · dsimp only
    rcases preload st1 rest with ⟨st2, _ | _ | _⟩ <;> rfl
  · rfl
  · rfl

end TB
