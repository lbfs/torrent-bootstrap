/-
  Bytes and digits, and the two leaf state machines (`decodeInt`, `decodeStr`): what they return
  (`*_yields`: soundness and absence of panics in one statement) and that they accept `encodeInt` /
  `encodeStr` (`*_complete`).
-/
import TB.Model.Bencode
import TB.Spec.BencodeSpec
namespace TB

/-- `r` is not a panic, and a value it returns satisfies `P` -/
def Res.Yields {α : Type} (r : Res α) (P : α → Prop) : Prop :=
  match r with
  | .ok a => P a
  | .err => True
  | .panic => False

section
variable {α : Type} {r : Res α} {P : α → Prop}

theorem Res.Yields.of_ok (h : r.Yields P) {a : α} (e : r = .ok a) : P a := by subst e; exact h

theorem Res.Yields.ne_panic (h : r.Yields P) : r ≠ .panic := by rintro rfl; exact h

@[elab_as_elim]
theorem Res.Yields.elim {motive : Res α → Prop} (h : r.Yields P) (ok : ∀ a, P a → motive (.ok a))
    (err : motive .err) : motive r := by
  cases r with
  | ok a => exact ok a h
  | err => exact err
  | panic => exact False.elim h

theorem Res.Yields.mono {Q : α → Prop} (h : r.Yields P) (hPQ : ∀ a, P a → Q a) : r.Yields Q :=
  h.elim hPQ trivial

end

theorem byte_eq_of_beq {a b : UInt8} (h : (a == b) = true) : a = b := eq_of_beq h

theorem isDigit_iff (b : UInt8) : isDigit b = true ↔ 48 ≤ b.toNat ∧ b.toNat ≤ 57 := by
  simp [isDigit, UInt8.le_iff_toNat_le]

theorem isNonZeroDigit_iff (b : UInt8) : isNonZeroDigit b = true ↔ 49 ≤ b.toNat ∧ b.toNat ≤ 57 := by
  simp [isNonZeroDigit, UInt8.le_iff_toNat_le]

theorem isDigit_of_nonZero {b : UInt8} (h : isNonZeroDigit b = true) : isDigit b = true := by
  rw [isNonZeroDigit_iff] at h; rw [isDigit_iff]; omega

theorem ofNat_digitVal {b : UInt8} (h : isDigit b = true) : UInt8.ofNat (48 + digitVal b) = b := by
  rw [isDigit_iff] at h
  apply UInt8.toNat_inj.mp
  simp [digitVal]
  omega

theorem digitVal_lt {b : UInt8} (h : isDigit b = true) : digitVal b < 10 := by
  rw [isDigit_iff] at h; unfold digitVal; omega

theorem digitVal_pos {b : UInt8} (h : isNonZeroDigit b = true) : 0 < digitVal b := by
  rw [isNonZeroDigit_iff] at h; unfold digitVal; omega

theorem toNat_ofNat_digit {d : Nat} (h : d < 10) : (UInt8.ofNat (48 + d)).toNat = 48 + d := by
  simp; omega

theorem isDigit_ofNat {d : Nat} (h : d < 10) : isDigit (UInt8.ofNat (48 + d)) = true := by
  rw [isDigit_iff, toNat_ofNat_digit h]; omega

theorem digitVal_ofNat {d : Nat} (h : d < 10) : digitVal (UInt8.ofNat (48 + d)) = d := by
  unfold digitVal; rw [toNat_ofNat_digit h]; omega

theorem isNonZeroDigit_ofNat {d : Nat} (h : d < 10) (h0 : 0 < d) :
    isNonZeroDigit (UInt8.ofNat (48 + d)) = true := by
  rw [isNonZeroDigit_iff, toNat_ofNat_digit h]; omega

theorem natDigits_lt {n : Nat} (h : n < 10) : natDigits n = [UInt8.ofNat (48 + n)] := by
  rw [natDigits, dif_pos h]

theorem natDigits_ge {n : Nat} (h : ¬ n < 10) :
    natDigits n = natDigits (n / 10) ++ [UInt8.ofNat (48 + n % 10)] := by
  rw [natDigits, dif_neg h]

theorem natDigits_step {a d : Nat} (ha : 0 < a) (hd : d < 10) :
    natDigits (a * 10 + d) = natDigits a ++ [UInt8.ofNat (48 + d)] := by
  have h : ¬ a * 10 + d < 10 ∧ (a * 10 + d) / 10 = a ∧ (a * 10 + d) % 10 = d := by omega
  rw [natDigits_ge h.1, h.2.1, h.2.2]

theorem natDigits_snoc {a : Nat} (ha : 0 < a) {b : UInt8} (hb : isDigit b = true) (ds : Bytes) :
    natDigits (a * 10 + digitVal b) ++ ds = natDigits a ++ b :: ds := by
  rw [natDigits_step ha (digitVal_lt hb), ofNat_digitVal hb, List.append_assoc]; rfl

theorem natDigits_digitVal {b : UInt8} (h : isDigit b = true) : natDigits (digitVal b) = [b] := by
  rw [natDigits_lt (digitVal_lt h), ofNat_digitVal h]

theorem encodeStr_nil : encodeStr [] = [48, 58] := by
  rw [encodeStr, List.length_nil, natDigits_lt (by decide)]; rfl

theorem natDigits_length_pos (n : Nat) : 0 < (natDigits n).length := by
  by_cases h : n < 10
  · rw [natDigits_lt h]; exact Nat.one_pos
  · rw [natDigits_ge h, List.length_append]; exact Nat.succ_pos _

theorem natDigits_head (n : Nat) : ∃ b tl, natDigits n = b :: tl ∧ isDigit b = true := by
  induction n using Nat.strongRecOn with
  | _ n ih =>
    by_cases h : n < 10
    · exact ⟨_, [], natDigits_lt h, isDigit_ofNat h⟩
    · obtain ⟨b, tl, e, hb⟩ := ih (n / 10) (by omega)
      exact ⟨b, tl ++ [UInt8.ofNat (48 + n % 10)], by rw [natDigits_ge h, e]; rfl, hb⟩

/-- The shape of a loop that reads a numeral: `start` takes the first, nonzero, digit and enters
    `loop` with its value; `loop` takes a further digit as long as the value stays in range (`ok`,
    downward closed). Then reading the numeral of `n > 0` from `start` reaches `loop` with `val n`. -/
theorem reads_natDigits {β γ : Type} {start : Bytes → Nat → γ} {loop : Bytes → β → Nat → γ}
    {val : Nat → β} {ok : Nat → Prop}
    (hstart : ∀ b tl pos, isNonZeroDigit b = true → start (b :: tl) pos = loop tl (val (digitVal b)) (pos + 1))
    (hloop : ∀ b tl n pos, isDigit b = true → ok (n * 10 + digitVal b) →
      loop (b :: tl) (val n) pos = loop tl (val (n * 10 + digitVal b)) (pos + 1))
    (hok : ∀ n, ok n → ok (n / 10)) (n : Nat) : 0 < n → ok n → ∀ (tl : Bytes) (pos : Nat),
    ∃ p, start (natDigits n ++ tl) pos = loop tl (val n) p := by
  induction n using Nat.strongRecOn with
  | _ n ih =>
    intro hn hr tl pos
    by_cases h : n < 10
    · exact ⟨_, by rw [natDigits_lt h, List.singleton_append, hstart _ _ _ (isNonZeroDigit_ofNat h hn),
        digitVal_ofNat h]⟩
    · have hd : n % 10 < 10 := Nat.mod_lt n (by decide)
      have e : n / 10 * 10 + digitVal (UInt8.ofNat (48 + n % 10)) = n := by
        rw [digitVal_ofNat hd, Nat.div_add_mod']
      obtain ⟨p, ep⟩ := ih (n / 10) (Nat.div_lt_self hn (by decide)) (Nat.div_pos (Nat.le_of_not_lt h) (by decide))
        (hok n hr) (UInt8.ofNat (48 + n % 10) :: tl) pos
      exact ⟨_, by rw [natDigits_ge h, List.append_assoc, List.singleton_append, ep,
        hloop _ _ _ _ (isDigit_ofNat hd) (by rw [e]; exact hr), e]⟩

/-! ### positions

  Each state keeps `c + rest.length = pos + inp.length` for the continuation `c` and the rest it would
  return: the position advances by what is consumed. -/

theorem consumed_cons {c r pos : Nat} (b : UInt8) {tl : Bytes} (h : c + r = pos + 1 + tl.length) :
    c + r = pos + (b :: tl).length := by
  rw [h, List.length_cons, Nat.add_assoc, Nat.add_comm 1]

theorem cont_of_consumed {inp enc rest : Bytes} {c pos : Nat} (e : inp = enc ++ rest)
    (h : c + rest.length = pos + inp.length) : c = pos + enc.length := by
  rw [e, List.length_append] at h; omega

theorem strChars_yields (n : Nat) (inp : Bytes) (pos : Nat) :
    (strChars n inp pos).Yields fun (s, c, rest) => inp = s ++ rest ∧ s.length = n ∧ c = pos + n := by
  unfold strChars
  split
  · trivial
  · split
    · trivial
    · exact ⟨(List.take_append_drop _ _).symm, by rw [List.length_take]; omega, rfl⟩

theorem strChars_append (a : UInt8) (s rest : Bytes) (pos : Nat) :
    strChars (a :: s).length (a :: s ++ rest) pos = .ok (a :: s, pos + (a :: s).length, rest) := by
  rw [List.cons_append, strChars, if_neg (by rw [← List.cons_append, List.length_append]; omega),
    ← List.cons_append, List.take_left, List.drop_left]

theorem strDigits_digit {b : UInt8} (hb : isDigit b = true) (tl : Bytes) (n pos : Nat) :
    strDigits (b :: tl) n pos =
      if n * 10 + digitVal b ≤ usizeMax then strDigits tl (n * 10 + digitVal b) (pos + 1) else .err := by
  rw [strDigits, if_pos hb]
  dsimp only
  by_cases h : n * 10 + digitVal b ≤ usizeMax
  · rw [if_pos h, if_neg (Nat.not_lt.mpr (Nat.le_trans (Nat.le_add_right _ _) h)), if_neg (Nat.not_lt.mpr h)]
  · rw [if_neg h, if_pos (Nat.lt_of_not_le h)]
    split <;> rfl

theorem strDigits_nondigit {b : UInt8} (hb : ¬ isDigit b = true) (tl : Bytes) (n pos : Nat) :
    strDigits (b :: tl) n pos = if b == 58 then strChars n tl (pos + 1) else .err := by
  rw [strDigits, if_neg hb]

theorem strDigits_yields : ∀ (inp : Bytes) (n pos : Nat), 0 < n → n ≤ usizeMax →
    (strDigits inp n pos).Yields fun (s, c, rest) =>
      natDigits n ++ inp = natDigits s.length ++ 58 :: (s ++ rest) ∧ c + rest.length = pos + inp.length
        ∧ s.length ≤ usizeMax
  | [], _, _, _, _ => trivial
  | b :: tl, n, pos, hn, hmax => by
    by_cases hb : isDigit b = true
    · rw [strDigits_digit hb]
      split
      · next h =>
        refine (strDigits_yields tl _ (pos + 1) (by omega) h).mono ?_
        rintro ⟨s, c, rest⟩ ⟨e, hc, hs⟩
        exact ⟨(natDigits_snoc hn hb tl).symm.trans e, consumed_cons b hc, hs⟩
      · trivial
    · rw [strDigits_nondigit hb]
      split
      · next h =>
        refine (strChars_yields n tl (pos + 1)).mono ?_
        rintro ⟨s, c, rest⟩ ⟨rfl, rfl, rfl⟩
        exact ⟨by rw [byte_eq_of_beq h], by rw [List.length_cons, List.length_append]; omega, hmax⟩
      · trivial

theorem strSep_yields (inp : Bytes) (pos : Nat) :
    (strSep inp pos).Yields fun (s, c, rest) => inp = 58 :: rest ∧ s = [] ∧ c = pos + 1 := by
  fun_cases strSep inp pos
  · next h => exact ⟨by rw [byte_eq_of_beq h], rfl, rfl⟩
  all_goals trivial

theorem decodeStr_yields (inp : Bytes) (pos : Nat) :
    (decodeStr inp pos).Yields fun (s, c, rest) =>
      inp = encodeStr s ++ rest ∧ c = pos + (encodeStr s).length ∧ s.length ≤ usizeMax := by
  fun_cases decodeStr inp pos
  · next b tl h0 =>
    refine (strSep_yields tl (pos + 1)).mono ?_
    rintro ⟨s, c, rest⟩ ⟨rfl, rfl, rfl⟩
    rw [byte_eq_of_beq h0]
    exact ⟨by rw [encodeStr_nil]; rfl, by rw [encodeStr_nil]; rfl, Nat.zero_le _⟩
  · next b tl _ hb =>
    have hd := isDigit_of_nonZero hb
    refine (strDigits_yields tl _ (pos + 1) (digitVal_pos hb)
      (Nat.le_trans (Nat.le_of_lt (digitVal_lt hd)) (by decide))).mono ?_
    rintro ⟨s, c, rest⟩ ⟨e, hc, hs⟩
    rw [natDigits_digitVal hd] at e
    have e' : b :: tl = encodeStr s ++ rest := by rw [encodeStr, List.append_assoc, List.append_assoc]; exact e
    exact ⟨e', cont_of_consumed e' (consumed_cons b hc), hs⟩
  all_goals trivial

theorem decodeStr_natDigits {n : Nat} (hn : 0 < n) (hmax : n ≤ usizeMax) (tl : Bytes) (pos : Nat) :
    ∃ p, decodeStr (natDigits n ++ tl) pos = strDigits tl n p := by
  refine reads_natDigits (val := fun n => n) (ok := (· ≤ usizeMax)) ?_ ?_ ?_ n hn hmax tl pos
  · intro b tl pos hb
    have h48 : ¬ (b == 48) = true := by
      intro h; rw [byte_eq_of_beq h] at hb; exact absurd hb (by decide)
    rw [decodeStr, if_neg h48, if_pos hb]
  · intro b tl n pos hb h
    rw [strDigits_digit hb, if_pos h]
  · intro n h
    exact Nat.le_trans (Nat.div_le_self n 10) h

theorem decodeStr_complete (s rest : Bytes) (pos : Nat) (hs : s.length ≤ usizeMax) :
    ∃ c, decodeStr (encodeStr s ++ rest) pos = .ok (s, c, rest) := by
  cases s with
  | nil => exact ⟨_, by rw [encodeStr_nil]; rfl⟩
  | cons a s' =>
    obtain ⟨p, e⟩ := decodeStr_natDigits (n := (a :: s').length) (Nat.succ_pos _) hs (58 :: (a :: s' ++ rest)) pos
    exact ⟨_, by rw [encodeStr, List.append_assoc, List.append_assoc, List.singleton_append, e,
      strDigits_nondigit (by decide), if_pos (by decide), strChars_append]⟩

theorem decodeStrTok_yields (inp : Bytes) (pos : Nat) :
    (decodeStrTok inp pos).Yields fun (st, r) =>
      inp = encodeStr st.val ++ r ∧ st.s = pos ∧ st.c = pos + (encodeStr st.val).length
        ∧ st.val.length ≤ usizeMax := by
  unfold decodeStrTok
  exact (decodeStr_yields inp pos).elim (fun ⟨_, _, _⟩ h => ⟨h.1, rfl, h.2⟩) trivial

theorem inI128_iff (v : Int) : inI128 v = true ↔ -(2 ^ 127) ≤ v ∧ v ≤ 2 ^ 127 - 1 := by
  rw [inI128, Bool.and_eq_true, decide_eq_true_iff, decide_eq_true_iff]; rfl

theorem inI128_false_iff (v : Int) : inI128 v = false ↔ ¬ inI128 v = true := by simp

/-- the accumulator of `intDigits neg` after reading the digits of `n` -/
def sgn (neg : Bool) (n : Nat) : Int := if neg then -(n : Int) else n

theorem inI128_sgn_mono (neg : Bool) {m n : Nat} (h : m ≤ n) (hn : inI128 (sgn neg n) = true) :
    inI128 (sgn neg m) = true := by
  rw [inI128_iff] at hn ⊢
  cases neg <;> simp only [sgn, if_true, Bool.false_eq_true, if_false] at hn ⊢ <;> omega

theorem encodeInt_pos (m : Nat) (rest : Bytes) :
    encodeInt (sgn false m) ++ rest = 105 :: (natDigits m ++ 101 :: rest) := by
  show encodeInt (m : Int) ++ rest = _
  rw [encodeInt, if_neg (Int.not_lt.mpr (Int.natCast_nonneg m)), Int.natAbs_natCast, List.append_assoc,
    List.append_assoc]; rfl

theorem encodeInt_neg {m : Nat} (hm : 0 < m) (rest : Bytes) :
    encodeInt (sgn true m) ++ rest = 105 :: 45 :: (natDigits m ++ 101 :: rest) := by
  show encodeInt (-(m : Int)) ++ rest = _
  rw [encodeInt, if_pos (by omega), Int.natAbs_neg, Int.natAbs_natCast, List.append_assoc, List.append_assoc,
    List.append_assoc]; rfl

theorem intDigits_digit (neg : Bool) {b : UInt8} (hb : isDigit b = true) (tl : Bytes) (n pos : Nat) :
    intDigits neg (b :: tl) (sgn neg n) pos =
      if inI128 (sgn neg (n * 10 + digitVal b)) then intDigits neg tl (sgn neg (n * 10 + digitVal b)) (pos + 1)
      else .err := by
  have e : sgn neg n * 10 = sgn neg (n * 10)
      ∧ (if neg = true then sgn neg n * 10 - (digitVal b : Int) else sgn neg n * 10 + (digitVal b : Int))
        = sgn neg (n * 10 + digitVal b) := by
    cases neg <;> simp only [sgn, if_true, Bool.false_eq_true, if_false] <;> omega
  rw [intDigits, if_pos hb]
  dsimp only
  rw [e.2, e.1]
  cases h : inI128 (sgn neg (n * 10 + digitVal b))
  · cases inI128 (sgn neg (n * 10)) <;> rfl
  · rw [inI128_sgn_mono neg (Nat.le_add_right _ _) h]; rfl

theorem intDigits_nondigit (neg : Bool) {b : UInt8} (hb : ¬ isDigit b = true) (tl : Bytes) (acc : Int) (pos : Nat) :
    intDigits neg (b :: tl) acc pos = if b == 101 then .ok (acc, pos + 1, tl) else .err := by
  rw [intDigits, if_neg hb]

theorem intDigits_yields (neg : Bool) : ∀ (inp : Bytes) (n pos : Nat), 0 < n → inI128 (sgn neg n) = true →
    (intDigits neg inp (sgn neg n) pos).Yields fun (v, c, rest) =>
      ∃ m, 0 < m ∧ v = sgn neg m ∧ inI128 v = true ∧ natDigits n ++ inp = natDigits m ++ 101 :: rest
        ∧ c + rest.length = pos + inp.length
  | [], _, _, _, _ => trivial
  | b :: tl, n, pos, hn, hr => by
    by_cases hb : isDigit b = true
    · rw [intDigits_digit neg hb]
      split
      · next h =>
        refine (intDigits_yields neg tl _ (pos + 1) (by omega) h).mono ?_
        rintro ⟨v, c, rest⟩ ⟨m, hm, rfl, hv, e, hc⟩
        exact ⟨m, hm, rfl, hv, (natDigits_snoc hn hb tl).symm.trans e, consumed_cons b hc⟩
      · trivial
    · rw [intDigits_nondigit neg hb]
      split
      · next h => exact ⟨n, hn, rfl, hr, by rw [byte_eq_of_beq h], consumed_cons b rfl⟩
      · trivial

theorem intDigits_first (neg : Bool) {b : UInt8} (hb : isNonZeroDigit b = true) (tl : Bytes) (pos : Nat) :
    (intDigits neg tl (sgn neg (digitVal b)) (pos + 1)).Yields fun (v, c, rest) =>
      ∃ m, 0 < m ∧ v = sgn neg m ∧ inI128 v = true ∧ b :: tl = natDigits m ++ 101 :: rest
        ∧ c + rest.length = pos + 1 + tl.length := by
  have hd := isDigit_of_nonZero hb
  have h := intDigits_yields neg tl _ (pos + 1) (digitVal_pos hb)
    (inI128_sgn_mono neg (n := 9) (Nat.le_of_lt_succ (digitVal_lt hd)) (by cases neg <;> decide))
  rw [natDigits_digitVal hd] at h
  exact h

theorem intStop_yields (v0 : Int) (inp : Bytes) (pos : Nat) :
    (intStop v0 inp pos).Yields fun (v, c, rest) => inp = 101 :: rest ∧ v = v0 ∧ c = pos + 1 := by
  fun_cases intStop v0 inp pos
  · next h => exact ⟨by rw [byte_eq_of_beq h], rfl, rfl⟩
  all_goals trivial

theorem intNonZero_yields (inp : Bytes) (pos : Nat) :
    (intNonZero inp pos).Yields fun (v, c, rest) =>
      105 :: 45 :: inp = encodeInt v ++ rest ∧ c + rest.length = pos + inp.length ∧ inI128 v = true := by
  fun_cases intNonZero inp pos
  · next b tl hb =>
    refine (intDigits_first true hb tl pos).mono ?_
    rintro ⟨v, c, rest⟩ ⟨m, hm, rfl, hv, e, hc⟩
    exact ⟨by rw [encodeInt_neg hm, e], consumed_cons b hc, hv⟩
  all_goals trivial

theorem encodeInt_zero : encodeInt 0 = [105, 48, 101] := by
  rw [encodeInt, if_neg (by decide), Int.natAbs_zero, natDigits_lt (by decide)]; rfl

theorem intFirst_yields (inp : Bytes) (pos : Nat) :
    (intFirst inp pos).Yields fun (v, c, rest) =>
      105 :: inp = encodeInt v ++ rest ∧ c + rest.length = pos + inp.length ∧ inI128 v = true := by
  fun_cases intFirst inp pos
  · next b tl hb =>
    refine (intDigits_first false hb tl pos).mono ?_
    rintro ⟨v, c, rest⟩ ⟨m, _, rfl, hv, e, hc⟩
    exact ⟨by rw [encodeInt_pos, e], consumed_cons b hc, hv⟩
  · next b tl _ h0 =>
    refine (intStop_yields 0 tl (pos + 1)).mono ?_
    rintro ⟨v, c, rest⟩ ⟨rfl, rfl, rfl⟩
    exact ⟨by rw [byte_eq_of_beq h0, encodeInt_zero]; rfl, consumed_cons b (consumed_cons 101 rfl), by decide⟩
  · next b tl _ _ hm =>
    refine (intNonZero_yields tl (pos + 1)).mono ?_
    rintro ⟨v, c, rest⟩ ⟨e, hc, hv⟩
    exact ⟨by rw [byte_eq_of_beq hm]; exact e, consumed_cons b hc, hv⟩
  all_goals trivial

theorem decodeInt_yields (inp : Bytes) (pos : Nat) :
    (decodeInt inp pos).Yields fun (v, c, rest) =>
      inp = encodeInt v ++ rest ∧ c = pos + (encodeInt v).length ∧ inI128 v = true := by
  fun_cases decodeInt inp pos
  · next b tl hb =>
    refine (intFirst_yields tl (pos + 1)).mono ?_
    rintro ⟨v, c, rest⟩ ⟨e, hc, hv⟩
    rw [byte_eq_of_beq hb]
    exact ⟨e, cont_of_consumed e (consumed_cons 105 hc), hv⟩
  all_goals trivial

/-- reading the numeral of `w > 0` from the state `start` that takes the first digit (`intFirst`, or
    `intNonZero` after `-`) reaches `intDigits` with accumulator `±w` -/
theorem intDigits_natDigits (neg : Bool) {start : Bytes → Nat → Res (Int × Nat × Bytes)}
    (hstart : ∀ b tl pos, isNonZeroDigit b = true →
      start (b :: tl) pos = intDigits neg tl (sgn neg (digitVal b)) (pos + 1))
    {w : Nat} (hw : 0 < w) (hr : inI128 (sgn neg w) = true) (tl : Bytes) (pos : Nat) :
    ∃ p, start (natDigits w ++ tl) pos = intDigits neg tl (sgn neg w) p :=
  reads_natDigits (val := sgn neg) (ok := fun n => inI128 (sgn neg n) = true) hstart
    (fun b tl n pos hb h => by rw [intDigits_digit neg hb, if_pos h])
    (fun n h => inI128_sgn_mono neg (Nat.div_le_self n 10) h) w hw hr tl pos

theorem decodeInt_sgn (neg : Bool) {m : Nat} (hm : 0 < m) (hv : inI128 (sgn neg m) = true) (rest : Bytes)
    (pos : Nat) : ∃ c, decodeInt (encodeInt (sgn neg m) ++ rest) pos = .ok (sgn neg m, c, rest) := by
  cases neg
  · obtain ⟨p, e⟩ := intDigits_natDigits false (start := intFirst)
      (fun b tl pos hb => by rw [intFirst, if_pos hb]; rfl) hm hv (101 :: rest) (pos + 1)
    exact ⟨_, by rw [encodeInt_pos, decodeInt, if_pos (by decide), e, intDigits_nondigit false (by decide),
      if_pos (by decide)]⟩
  · obtain ⟨p, e⟩ := intDigits_natDigits true (start := intNonZero)
      (fun b tl pos hb => by rw [intNonZero, if_pos hb]; rfl) hm hv (101 :: rest) (pos + 1 + 1)
    exact ⟨_, by rw [encodeInt_neg hm, decodeInt, if_pos (by decide), intFirst, if_neg (by decide),
      if_neg (by decide), if_pos (by decide), e, intDigits_nondigit true (by decide), if_pos (by decide)]⟩

theorem decodeInt_complete (v : Int) (rest : Bytes) (pos : Nat) (hv : inI128 v = true) :
    ∃ c, decodeInt (encodeInt v ++ rest) pos = .ok (v, c, rest) := by
  have h0 : ∃ c, decodeInt (encodeInt 0 ++ rest) pos = .ok (0, c, rest) := ⟨_, by rw [encodeInt_zero]; rfl⟩
  obtain ⟨m, rfl | rfl⟩ := Int.eq_nat_or_neg v
  · cases m with
    | zero => exact h0
    | succ m => exact decodeInt_sgn false (Nat.succ_pos m) hv rest pos
  · cases m with
    | zero => exact h0
    | succ m => exact decodeInt_sgn true (Nat.succ_pos m) hv rest pos

end TB
