/-
  What a whole run keeps of the standing tree invariants, at every prefix of its log, and the
  tree-independent form of a run's table and work list (C04 over histories, `TB.Props.C04hist`).

  * Part A — `FsWF` at every prefix of a run's log. The statement is about the LOG alone (`WFLog`): replaying any
    prefix of it on ANY well-formed tree gives a well-formed tree. Every operation other than `openc` keeps `FsWF`
    whatever it is; an `openc` does not in general (`C04_openc_alone_breaks_wf` in `TB.Props.C04hist`: the parent
    exists as a directory but a grandparent does not), but in a run's log every `openc p` directly follows a successful
    `mkdirs (parent p)` (`RB.Follows RB.needMkdirs`, `RB.run_follows`), and the pair keeps `FsWF` (`WFLog.of_follows`).
  * Part B — `NoAlias` with respect to ANY table survives ANY list of logged operations (there is no operation that
    binds a second name to an inode; a created file gets the fresh inode `next`).
  * Part C — the table and the work list of a run up to the candidate lists (`searches`): `table0`, `work0` depend on
    the torrents and the export directory only, not on the tree; every operation of a run satisfies `RunJ.OpFact`
    with respect to them (`run_opFact0`). `Work.img` is what `VerE` looks at in a work item.
-/
import TB.Spec.ExportSpec
import TB.Props.C11
import TB.Props.C04a
import TB.Props.C01bytes
import TB.Props.C04h
import TB.Lemmas.RunK
import TB.Lemmas.RunM
import TB.Lemmas.RunARun
namespace TB.RunR
open TB

theorem wf_applyOp {fs : Fs} (hwf : FsWF fs) (o : Op) (hk : o.kind ≠ .openc) : FsWF (applyOp fs o) :=
  RunJ.applyOp_cases (Q := FsWF) fs o hwf (fun _ => (RunF.loc_mkdirs (fun _ => True) fs o.path).wf hwf)
    (fun h _ _ => absurd h hk) (fun _ _ _ _ => hwf) (fun _ _ _ _ _ => hwf)

/-- `create_dir_all (parent p)` followed by the creating open of `p` keeps the tree well-formed: if the open creates
    `p`, then no proper prefix of `p` is a regular file (else `look p` is ENOTDIR), hence `create_dir_all` succeeded
    and made every proper prefix a directory -/
theorem wf_mkdirs_openCreate {fs : Fs} (hwf : FsWF fs) (p : Path) :
    FsWF (((fs.mkdirs p.dropLast).1).openCreate p).1 := by
  have hwf1 : FsWF (fs.mkdirs p.dropLast).1 := (RunF.loc_mkdirs (fun _ => True) fs _).wf hwf
  rcases RunF.openCreate_cases (fs.mkdirs p.dropLast).1 p with e | ⟨hl, _, e⟩
  · rw [e]; exact hwf1
  · rw [e]
    refine (RunF.loc_addFile (T := fun _ => True) trivial hl fun q hq => ?_).wf hwf1
    have hok : (fs.mkdirs p.dropLast).2 = true := RunF.mkdirs_parent_ok fun q hq => by
      rw [← RunF.inoOf_congr (RunF.mkdirs_spec fs p.dropLast).1]
      exact RunF.look_notFound_prefix hl q hq
    exact (RunF.mkdirs_spec fs _).2.2.2.2.2 hok q (RunF.properPrefixes_sub_dropLast hq)

def WFLog (ops : List Op) : Prop := ∀ fs, FsWF fs → ∀ n, FsWF (replay fs (ops.take n))

theorem WFLog.single {o : Op} (h : o.kind ≠ .openc) : WFLog [o] := by
  intro fs hwf n
  cases n with
  | zero => simpa [replay] using hwf
  | succ n =>
    have : [o].take (n + 1) = [o] := by simp
    rw [this]
    exact wf_applyOp hwf o h

theorem WFLog.of_follows {ops : List Op} (h : RB.Follows RB.needMkdirs ops) : WFLog ops := by
  intro fs hwf n
  induction n using Nat.strongRecOn with
  | _ n ih =>
    cases n with
    | zero => simpa [replay] using hwf
    | succ n =>
      by_cases hn : n < ops.length
      · rw [List.take_add_one, List.getElem?_eq_getElem hn, Option.toList_some, replay_append]
        by_cases hk : ops[n].kind = .openc
        · -- the create-open at position `n` comes right after its `mkdirs`: go back two steps
          obtain ⟨hpos, hprev⟩ := h n ops[n] _ (List.getElem?_eq_getElem hn) (by unfold RB.needMkdirs; rw [hk])
          obtain ⟨m, rfl⟩ : ∃ m, n = m + 1 := ⟨n - 1, by omega⟩
          rw [Nat.add_sub_cancel] at hprev
          rw [List.take_add_one, hprev, Option.toList_some, replay_append]
          cases hok : ops[m + 1].ok
          · simpa [replay, applyOp, hk, hok] using
              wf_applyOp (ih m (by omega)) ⟨.mkdirs, ops[m + 1].path.dropLast, true⟩ (by simp)
          · simpa [replay, applyOp, hk, hok] using wf_mkdirs_openCreate (ih m (by omega)) ops[m + 1].path
        · exact wf_applyOp (ih n (by omega)) _ hk
      · rw [List.take_of_length_le (by omega)]
        have := ih ops.length (by omega)
        rwa [List.take_length] at this

theorem run_wflog (H : Bytes → Bytes) (inp : RunIn) : WFLog (run H inp).ops :=
  .of_follows (RB.run_follows RB.writerNeed_mkdirs H inp fun _ o ⟨_, _, _, hk, _⟩ => by
    unfold RB.needMkdirs
    rcases hk with hk | hk <;> rw [hk])

theorem noAl_replay {T : List TEntry} {fs : Fs} (hwf : FsWF fs) (hna : RunJ.NoAl fs T) (ops : List Op) :
    RunJ.NoAl (replay fs ops) T :=
  (RunK.SInv.replay hwf hna ops).na

end TB.RunR

namespace TB

/-- the metadata table of a run before the candidate lists are filled in: a function of the export directory and
    the torrents only (every `searches` field is `none`) -/
def table0 (inp : RunIn) : List TEntry :=
  buildTable inp.exportDir.path (dedupTorrents (sortTorrents inp.torrents)) 0

/-- the work items of a run built over `table0`: a function of the export directory and the torrents only
    (`[]` if `convert_pieces_to_work` would panic) -/
def work0 (inp : RunIn) : List Work :=
  (convertPiecesToWork (table0 inp) (dedupTorrents (sortTorrents inp.torrents))).getD []

def TEntry.strip (e : TEntry) : TEntry := { e with searches := none }
def WSeg.strip (s : WSeg) : WSeg := { s with ent := s.ent.strip }
def Work.strip (w : Work) : Work := { w with segs := w.segs.map WSeg.strip }

/-- what `VerE` looks at in a segment: length, offset, whether it is padding, the export image -/
def WSeg.img (s : WSeg) : Nat × Nat × Bool × Path := (s.len, s.off, s.ent.isPad, s.ent.fullTarget)
/-- what `VerE` looks at in a work item: the segments' ranges and images, and the piece hash. Two work items with the
    same `img` are the same piece in the same place; they may differ in entry ids (positions in the table of the
    run, which depend on which other torrents are loaded), candidate lists and the other bookkeeping fields. -/
def Work.img (w : Work) : List (Nat × Nat × Bool × Path) × Bytes := (w.segs.map WSeg.img, w.hash)

end TB

namespace TB.RunR
open TB

theorem strip_of_none {e : TEntry} (h : e.searches = none) : e.strip = e := by
  cases e; simp only [TEntry.strip] at *; rw [h]

theorem table0_strip (inp : RunIn) : (table0 inp).map TEntry.strip = table0 inp := by
  have : ∀ l : List TEntry, (∀ e ∈ l, e.searches = none) → l.map TEntry.strip = l := by
    intro l
    induction l with
    | nil => intro _; rfl
    | cons a l ih =>
      intro h
      rw [List.map_cons, strip_of_none (h a List.mem_cons_self), ih (fun e he => h e (List.mem_cons_of_mem _ he))]
  exact this _ (buildTable_searches _ _ _)

theorem populateSearches_strip (c : Cache) (obs : List (Nat × List Path)) (es : List TEntry) :
    (populateSearches c obs es).1.map TEntry.strip = es.map TEntry.strip := by
  induction es with
  | nil => simp [populateSearches]
  | cons e es ih =>
    unfold populateSearches
    rcases hrest : populateSearches c obs es with ⟨rest, okRest⟩
    rw [hrest] at ih
    simp only [] at ih ⊢
    split
    · simp only [List.map_cons, ih]
    split
    · simp only [List.map_cons, ih]
    split
    · split
      · simp only [List.map_cons, ih]; rfl
      · simp only [List.map_cons, ih]; rfl
    · simp only [List.map_cons, ih]; rfl

theorem lookupEntry_strip (table : List TEntry) (ih : Bytes) (idx : Nat) :
    lookupEntry (table.map TEntry.strip) ih idx = (lookupEntry table ih idx).map TEntry.strip := by
  unfold lookupEntry
  rw [List.find?_map]
  rfl

theorem workOfPiece_strip {table : List TEntry} {t : Torrent} {p : Piece} {w : Work}
    (h : workOfPiece table t p = some w) : workOfPiece (table.map TEntry.strip) t p = some w.strip := by
  unfold workOfPiece at h ⊢
  split at h
  · rename_i segs hm
    cases h
    have := mapM_option_rel (f' := fun s => (lookupEntry (table.map TEntry.strip) t.infoHash s.file).map
        (fun e => (⟨s.len, s.off, e⟩ : WSeg))) (g := WSeg.strip) ?_ hm
    · rw [this]; rfl
    · intro a _ b hab
      rw [lookupEntry_strip]
      cases hl : lookupEntry table t.infoHash a.file with
      | none => rw [hl] at hab; cases hab
      | some e => rw [hl] at hab; cases hab; rfl
  · cases h

theorem workOfTorrent_strip {table : List TEntry} {t : Torrent} {ws : List Work}
    (h : workOfTorrent table t = some ws) :
    workOfTorrent (table.map TEntry.strip) t = some (ws.map Work.strip) := by
  unfold workOfTorrent at h ⊢
  split at h
  · cases h
  · rename_i ps hps
    exact mapM_option_rel (fun a _ b hab => workOfPiece_strip hab) h

theorem convert_strip {table : List TEntry} {ts : List Torrent} {ws : List Work}
    (h : convertPiecesToWork table ts = some ws) :
    convertPiecesToWork (table.map TEntry.strip) ts = some (ws.map Work.strip) := by
  induction ts generalizing ws with
  | nil => simp [convertPiecesToWork] at h ⊢; subst h; rfl
  | cons t ts ih =>
    unfold convertPiecesToWork at h ⊢
    split at h
    · rename_i a b ha hb
      cases h
      rw [workOfTorrent_strip ha, ih hb, List.map_append]
    · cases h

theorem run_work_strip (H : Bytes → Bytes) (inp : RunIn) :
    (run H inp).work = [] ∨ work0 inp = (run H inp).work.map Work.strip := by
  rcases RunK.run_work_cases H inp with h | ⟨h, c, ht⟩
  · exact Or.inl h
  · right
    have ht : (run H inp).table = (populateSearches c inp.searchObs (table0 inp)).1 := ht
    have := convert_strip h
    rw [ht, populateSearches_strip, table0_strip] at this
    unfold work0
    rw [this]
    rfl

theorem run_work_strip_mem (H : Bytes → Bytes) (inp : RunIn) : ∀ w ∈ (run H inp).work, w.strip ∈ work0 inp := by
  intro w hw
  rcases run_work_strip H inp with h | h
  · rw [h] at hw; cases hw
  · rw [h]; exact List.mem_map_of_mem hw

theorem run_table_strip (H : Bytes → Bytes) (inp : RunIn) : ∀ e ∈ (run H inp).table, e.strip ∈ table0 inp := by
  intro e he
  obtain ⟨e0, he0, s, rfl⟩ := (run_inv H inp).1 e he
  have hs : e0.searches = none := buildTable_searches _ _ _ e0 he0
  have : ({ e0 with searches := s } : TEntry).strip = e0 := by
    cases e0; simp only [TEntry.strip] at *; rw [hs]
  rw [this]
  exact he0

theorem segStart_strip (segs : List WSeg) (k : Nat) : segStart (segs.map WSeg.strip) k = segStart segs k := by
  unfold segStart
  rw [← List.map_take, List.map_map]
  rfl

theorem run_opFact0 (H : Bytes → Bytes) (inp : RunIn) :
    ∀ o ∈ (run H inp).ops, RunJ.OpFact H (work0 inp) (table0 inp) o := by
  intro o ho
  obtain ⟨h1, h2⟩ := RunJ.run_opFact H inp o ho
  refine ⟨?_, ?_⟩
  · intro n hk
    obtain ⟨e, he, hp, hpath, hn⟩ := h1 n hk
    exact ⟨e.strip, run_table_strip H inp e he, hp, hpath, hn⟩
  · intro off d hk
    obtain ⟨w, hw, k, seg, buf, hseg, hp, hent, hpath, hoff, hH, hlen, hd⟩ := h2 off d hk
    refine ⟨w.strip, run_work_strip_mem H inp w hw, k, seg.strip, buf, ?_, hp, run_table_strip H inp _ hent, hpath,
      hoff, hH, ?_, ?_⟩
    · show (w.segs.map WSeg.strip)[k]? = some seg.strip
      rw [List.getElem?_map, hseg]; rfl
    · show segStart (w.segs.map WSeg.strip) k + seg.len ≤ buf.length
      rw [segStart_strip]; exact hlen
    · show d = (buf.drop (segStart (w.segs.map WSeg.strip) k)).take seg.len
      rw [segStart_strip]; exact hd

theorem work0_ent (inp : RunIn) : ∀ w ∈ work0 inp, ∀ seg ∈ w.segs, seg.ent ∈ table0 inp := by
  unfold work0
  cases h : convertPiecesToWork (table0 inp) (dedupTorrents (sortTorrents inp.torrents)) with
  | none => intro w hw; cases hw
  | some ws => exact convertPiecesToWork_ent h

theorem mapM_map_option {α β γ : Type} {f : β → Option γ} {g : α → β} {h : α → Option γ} (e : ∀ a, f (g a) = h a)
    (l : List α) : (l.map g).mapM f = l.mapM h := by
  induction l with
  | nil => rfl
  | cons a l ih => rw [List.map_cons, List.mapM_cons, List.mapM_cons, ih, e]

theorem mapM_strip (fs : Fs) (segs : List WSeg) :
    (segs.map WSeg.strip).mapM (segBytesIn fs) = segs.mapM (segBytesIn fs) :=
  mapM_map_option (fun _ => rfl) segs

theorem verE_strip (H : Bytes → Bytes) (fs : Fs) (w : Work) : VerE H fs w.strip ↔ VerE H fs w := by
  unfold VerE
  show (∃ parts, (w.segs.map WSeg.strip).mapM (segBytesIn fs) = some parts ∧ H parts.flatten = w.hash) ↔ _
  rw [mapM_strip]

/-- `segBytesIn` as a function of `WSeg.img` -/
def segBytesKey (fs : Fs) (k : Nat × Nat × Bool × Path) : Option Bytes :=
  if k.2.2.1 then some (List.replicate k.1 0)
  else match fs.look k.2.2.2 with
    | .file i => if k.2.1 + k.1 ≤ (fs.content i).length then some (fs.readAt i k.2.1 k.1) else none
    | _ => none

theorem mapM_key (fs : Fs) (segs : List WSeg) :
    segs.mapM (segBytesIn fs) = (segs.map WSeg.img).mapM (segBytesKey fs) :=
  (mapM_map_option (f := segBytesKey fs) (g := WSeg.img) (h := segBytesIn fs) (fun _ => rfl) segs).symm

theorem verE_img (H : Bytes → Bytes) (fs : Fs) {w w' : Work} (h : w'.img = w.img) : VerE H fs w' ↔ VerE H fs w := by
  have h1 : w'.segs.map WSeg.img = w.segs.map WSeg.img := congrArg Prod.fst h
  have h2 : w'.hash = w.hash := congrArg Prod.snd h
  unfold VerE
  rw [mapM_key, mapM_key, h1, h2]

theorem img_strip (w : Work) : w.strip.img = w.img := by
  unfold Work.img Work.strip
  simp only [List.map_map]
  rfl

end TB.RunR
