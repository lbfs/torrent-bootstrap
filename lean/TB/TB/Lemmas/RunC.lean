/-
  Reads and matchers: read-only extensions of a state (`ROExt`), what `readBytes`, `scanSingle`, `preloadSeg`,
  `preload` and `searchProduct` return, admissible candidate orders, the candidate index.
-/
import TB.Lemmas.Run
namespace TB.RC
/-- unfolded form of `NoFutureFaults` (which is defined in `TB.Props.C02`) -/
def NFF (st : St) : Prop := ∀ idx ∈ st.faults, idx < st.ops.length

structure ROExt (st st' : St) : Prop where
  fs : st'.fs = st.fs
  faults : st'.faults = st.faults
  ops : ∃ extra, st'.ops = st.ops ++ extra ∧ ∀ o ∈ extra, o.kind.mutating = false

theorem ROExt.refl (st : St) : ROExt st st := ⟨rfl, rfl, [], by simp, by simp⟩

theorem ROExt.trans {a b c : St} (h1 : ROExt a b) (h2 : ROExt b c) : ROExt a c := by
  obtain ⟨f1, g1, e1, o1, m1⟩ := h1
  obtain ⟨f2, g2, e2, o2, m2⟩ := h2
  refine ⟨f2.trans f1, g2.trans g1, e1 ++ e2, ?_, ?_⟩
  · rw [o2, o1, List.append_assoc]
  · intro o ho
    rcases List.mem_append.1 ho with h | h
    · exact m1 o h
    · exact m2 o h

theorem ROExt.of_eq {α : Type} {st st' : St} {x : St × α} {a : α} (e : x = (st', a)) (h : ROExt st x.1) :
    ROExt st st' := by
  rw [e] at h; exact h

theorem ROExt.nff {a b : St} (h : ROExt a b) (hn : NFF a) : NFF b := by
  obtain ⟨_, g, e, o, _⟩ := h
  intro idx hidx
  rw [g] at hidx
  have := hn idx hidx
  rw [o, List.length_append]
  omega

theorem ROExt.newOps {a b : St} (h : ROExt a b) : ∀ o ∈ newOps a b, o.kind.mutating = false := by
  obtain ⟨_, _, e, o, m⟩ := h
  unfold TB.newOps
  rw [o, List.drop_left]
  exact m

theorem newOps_self (st : St) : newOps st st = [] := by
  unfold newOps; simp

theorem St.op_pure_spec {st : St} {k : OpKind} {p : Path} {b : Fs → Bool} {st1 : St} {ok : Bool}
    (h : st.op k p (fun fs => (fs, b fs)) = (st1, ok)) :
    st1.fs = st.fs ∧ st1.faults = st.faults ∧ st1.ops = st.ops ++ [⟨k, p, ok⟩] ∧ (NFF st → ok = b st.fs) := by
  unfold St.op at h
  split at h
  · rename_i hc
    obtain ⟨rfl, rfl⟩ := Prod.mk.inj h
    refine ⟨rfl, rfl, rfl, ?_⟩
    intro hn
    have := hn _ (List.contains_iff_mem.1 hc)
    omega
  · obtain ⟨rfl, rfl⟩ := Prod.mk.inj h
    exact ⟨rfl, rfl, rfl, fun _ => rfl⟩

theorem St.op_pure_ext {st : St} {k : OpKind} {p : Path} {b : Fs → Bool} {st1 : St} {ok : Bool}
    (hk : k.mutating = false)
    (h : st.op k p (fun fs => (fs, b fs)) = (st1, ok)) : ROExt st st1 := by
  obtain ⟨h1, h2, h3, _⟩ := St.op_pure_spec h
  refine ⟨h1, h2, [⟨k, p, ok⟩], h3, ?_⟩
  intro o ho
  rw [List.mem_singleton] at ho
  subst ho
  exact hk

theorem replayD_nonmutating (fs : Fs) {ops : List Op} (h : ∀ o ∈ ops, o.kind.mutating = false) :
    RD.replayD fs ops = fs := by
  induction ops generalizing fs with
  | nil => rfl
  | cons o ops ih =>
    have ho : RD.applyOpD fs o = fs := by
      have hm := h o List.mem_cons_self
      unfold RD.applyOpD
      cases hk : o.kind <;> first | rfl | (rw [hk] at hm; exact Bool.noConfusion hm)
    rw [RD.replayD, List.foldl_cons, ho]
    exact ih fs fun o' ho' => h o' (List.mem_cons_of_mem _ ho')

theorem ROExt.of_trace {P : Op → Prop} {st st' : St} (h : Trace P st st')
    (hp : ∀ o, P o → o.kind.mutating = false) : ROExt st st' := by
  obtain ⟨⟨new, e, p⟩, f, new', e', r⟩ := h
  cases List.append_cancel_left (e.symm.trans e')
  exact ⟨r.trans (replayD_nonmutating _ fun o ho => hp o (p o ho)), f, new, e, fun o ho => hp o (p o ho)⟩

theorem readAt_zero (fs : Fs) (i off : Nat) : fs.readAt i off 0 = [] := by
  unfold Fs.readAt; simp

theorem readBytes_ext (st : St) (p : Path) (len off : Nat) : ROExt st (st.readBytes p len off).1 :=
  .of_trace (readBytes_trace st p len off) fun _ => ReadOp.not_mutating

theorem readBytes_eq {st st1 : St} {p : Path} {len off : Nat} {bytes : Bytes}
    (h : st.readBytes p len off = (st1, some bytes)) {i : Nat} (hi : st.fs.look p = .file i) :
    bytes = st.fs.readAt i off len := by
  have e := (ROExt.of_eq h (readBytes_ext st p len off)).fs
  revert h
  fun_cases St.readBytes st p len off
  -- `len = 0`: nothing is read
  case case3 hlen =>
    intro h
    cases h
    rw [eq_of_beq hlen, readAt_zero]
  -- the read succeeded on a regular file
  case case5 hl =>
    intro h
    cases h
    rw [e] at hl ⊢
    cases hl.symm.trans hi
    rfl
  all_goals exact fun h => by cases h

theorem St.op_pure_nff {st : St} {k : OpKind} {p : Path} {b : Fs → Bool} {st1 : St} {ok : Bool}
    (h : st.op k p (fun fs => (fs, b fs)) = (st1, ok)) (hk : k.mutating = false) (hn : NFF st) :
    st1.fs = st.fs ∧ NFF st1 ∧ ok = b st.fs :=
  ⟨(St.op_pure_spec h).1, (St.op_pure_ext hk h).nff hn, (St.op_pure_spec h).2.2.2 hn⟩

theorem readBytes_nff {st : St} (hn : NFF st) {p : Path} {i : Nat} (hi : st.fs.look p = .file i) (len off : Nat) :
    st.readBytes p len off = ((st.readBytes p len off).1, some (st.fs.readAt i off len)) := by
  have key : ∀ {st1 st2 st3 ok1 ok2 ok3}, st.openr p = (st1, ok1) → st1.op (.seek off) p (fun fs => (fs, true)) = (st2, ok2) →
      st2.op .read p (fun fs => (fs, match fs.look p with | .file _ => true | _ => false)) = (st3, ok3) →
      st3.fs = st.fs ∧ ok3 = true := by
    intro st1 st2 st3 ok1 ok2 ok3 h1 h2 h3
    obtain ⟨f1, n1, _⟩ := St.op_pure_nff h1 rfl hn
    obtain ⟨f2, n2, _⟩ := St.op_pure_nff h2 rfl n1
    obtain ⟨f3, _, o3⟩ := St.op_pure_nff h3 rfl n2
    rw [f2, f1] at f3 o3
    rw [hi] at o3
    exact ⟨f3, o3⟩
  -- the ways through `St.readBytes`: the open fails, the seek fails, `len = 0`, the read fails, the bytes are
  -- returned, the path is no regular file after the read; on a regular file with no fault ahead only the third
  -- and the fifth remain
  fun_cases St.readBytes st p len off
  case case1 h1 n1 =>
    have := (St.op_pure_nff h1 rfl hn).2.2
    rw [hi] at this
    rw [this] at n1
    cases n1
  case case2 h1 _ _ _ h2 n2 =>
    rw [(St.op_pure_nff h2 rfl (St.op_pure_nff h1 rfl hn).2.1).2.2] at n2
    cases n2
  case case3 hlen => rw [eq_of_beq hlen, readAt_zero]
  case case4 h1 _ _ _ h2 _ _ _ _ h3 n3 =>
    rw [(key h1 h2 h3).2] at n3
    cases n3
  case case5 h1 _ _ _ h2 _ _ _ _ h3 _ _ hl =>
    rw [(key h1 h2 h3).1] at hl ⊢
    cases hl.symm.trans hi
    rfl
  case case6 h1 _ _ _ h2 _ _ _ _ h3 _ hl =>
    rw [(key h1 h2 h3).1] at hl
    exact absurd hi (hl i)

theorem firstM_option_isSome {α β : Type} {f : α → Option β} {l : List α} {c : α}
    (hc : c ∈ l) (hf : (f c).isSome = true) : (l.firstM f).isSome = true := by
  induction l with
  | nil => cases hc
  | cons a as ih =>
    cases ha : f a with
    | some b => simp [List.firstM, ha]
    | none =>
      simp [List.firstM, ha]
      rcases List.mem_cons.1 hc with rfl | h
      · rw [ha] at hf; cases hf
      · simpa using ih h

theorem firstM_option_head {α β : Type} {f : α → Option β} {l : List α} {c : α} {r : β}
    (hc : l.head? = some c) (hf : f c = some r) : l.firstM f = some r := by
  cases l with
  | nil => cases hc
  | cons a as =>
    simp at hc; subst hc
    simp [List.firstM, hf]

theorem scanSingle_ext (H : Bytes → Bytes) (hash : Bytes) (seg : WSeg) (st : St) (paths : List Path) :
    ROExt st (scanSingle H hash seg st paths).1 :=
  .of_trace (scanSingle_trace H hash seg st paths) fun _ => ReadOp.not_mutating

theorem scanSingle_none {H : Bytes → Bytes} {hash : Bytes} {seg : WSeg} {st st' : St} {paths : List Path}
    (h : scanSingle H hash seg st paths = (st', .ok none)) :
    ∀ p ∈ paths, ∀ i, st.fs.look p = .file i → H (st.fs.readAt i seg.off seg.len) ≠ hash := by
  fun_induction scanSingle H hash seg st paths with
  | case1 => intro p hp; cases hp
  | case2 | case3 => cases h
  -- the first candidate was read and does not match
  | case4 st q ps st1 bytes hr hne ih =>
    have e := (ROExt.of_eq hr (readBytes_ext st q seg.len seg.off)).fs
    intro p hp i hi
    rcases List.mem_cons.1 hp with rfl | hp
    · rw [← readBytes_eq hr hi]
      exact fun hh => hne (by rw [hh]; exact beq_self_eq_true _)
    · rw [← e] at hi ⊢
      exact ih h p hp i hi

theorem preloadSeg_ext (seg : WSeg) (st : St) (paths : List Path) (acc : List (Option Path × Bytes)) :
    ROExt st (preloadSeg seg st paths acc).1 :=
  .of_trace (preloadSeg_trace seg st paths acc) fun _ => ReadOp.not_mutating

/-- `c` was read from one of `paths`: its bytes are that file's bytes at the segment's range -/
def FromPath (fs : Fs) (seg : WSeg) (paths : List Path) (c : Option Path × Bytes) : Prop :=
  ∃ p ∈ paths, c.1 = some p ∧ ∀ i, fs.look p = .file i → c.2 = fs.readAt i seg.off seg.len

theorem FromPath.tail {fs : Fs} {seg : WSeg} {q : Path} {ps : List Path} {c : Option Path × Bytes}
    (h : FromPath fs seg ps c) : FromPath fs seg (q :: ps) c := by
  obtain ⟨p, hp, h1, h2⟩ := h
  exact ⟨p, List.mem_cons_of_mem _ hp, h1, h2⟩

theorem preloadSeg_spec {seg : WSeg} {st st' : St} {paths : List Path} {acc r : List (Option Path × Bytes)}
    (h : preloadSeg seg st paths acc = (st', .ok r)) :
    (∃ extra, r = acc ++ extra ∧ ∀ c ∈ extra, FromPath st.fs seg paths c) ∧
    ∀ p ∈ paths, ∀ i, st.fs.look p = .file i → ∃ x ∈ r, x.2 = st.fs.readAt i seg.off seg.len := by
  fun_induction preloadSeg seg st paths acc with
  | case1 =>
    cases h
    exact ⟨⟨[], by simp, fun c hc => by cases hc⟩, fun p hp => by cases hp⟩
  | case2 => cases h
  -- the first candidate's bytes are already in `acc`
  | case3 st q _ _ _ bytes hr hany ih =>
    obtain ⟨⟨extra, hex, hfrom⟩, hall⟩ := ih h
    rw [(ROExt.of_eq hr (readBytes_ext st q seg.len seg.off)).fs] at hfrom hall
    refine ⟨⟨extra, hex, fun c hc => (hfrom c hc).tail⟩, ?_⟩
    intro p hp i hi
    rcases List.mem_cons.1 hp with rfl | hp
    · obtain ⟨x, hx, hxb⟩ := List.any_eq_true.1 hany
      refine ⟨x, ?_, ?_⟩
      · rw [hex]; exact List.mem_append_left _ hx
      · rw [← readBytes_eq hr hi]; simpa using hxb
    · exact hall p hp i hi
  -- they are new and are appended with `q` as their supplier
  | case4 st q _ _ _ bytes hr _ ih =>
    obtain ⟨⟨extra, hex, hfrom⟩, hall⟩ := ih h
    rw [(ROExt.of_eq hr (readBytes_ext st q seg.len seg.off)).fs] at hfrom hall
    refine ⟨⟨(some q, bytes) :: extra, by rw [hex]; simp, ?_⟩, ?_⟩
    · intro c hc
      rcases List.mem_cons.1 hc with rfl | hc
      · exact ⟨q, List.mem_cons_self, rfl, fun i hi => readBytes_eq hr hi⟩
      · exact (hfrom c hc).tail
    · intro p hp i hi
      rcases List.mem_cons.1 hp with rfl | hp
      · exact ⟨(some p, bytes), by rw [hex]; simp, readBytes_eq hr hi⟩
      · exact hall p hp i hi

theorem preloadSeg_ok {seg : WSeg} {st : St} (hn : NFF st) {paths : List Path}
    (hr : ∀ p ∈ paths, ∃ i, st.fs.look p = .file i) (acc : List (Option Path × Bytes)) :
    ∃ r, (preloadSeg seg st paths acc).2 = .ok r := by
  fun_induction preloadSeg seg st paths acc with
  | case1 st acc => exact ⟨acc, rfl⟩
  -- a failed read is impossible: the candidate is a regular file and no fault lies ahead
  | case2 st q _ _ _ h =>
    obtain ⟨i, hi⟩ := hr q List.mem_cons_self
    rw [readBytes_nff hn hi] at h
    cases h
  -- the read succeeded (bytes old or new): on to the next candidate
  | case3 st q _ _ _ _ h _ ih | case4 st q _ _ _ _ h _ ih =>
    have e := ROExt.of_eq h (readBytes_ext st q seg.len seg.off)
    exact ih (e.nff hn) fun p hp => by rw [e.fs]; exact hr p (List.mem_cons_of_mem _ hp)

theorem preloadSeg_head {seg : WSeg} {st st' : St} {p : Path} {ps : List Path} {r : List (Option Path × Bytes)}
    {i : Nat} (hi : st.fs.look p = .file i)
    (h : preloadSeg seg st (p :: ps) [] = (st', .ok r)) :
    r.head? = some (some p, st.fs.readAt i seg.off seg.len) := by
  simp only [preloadSeg] at h
  split at h
  · cases h
  · rename_i st1 bytes hr
    have hb := readBytes_eq hr hi
    simp only [List.any_nil, Bool.false_eq_true, if_false, List.nil_append] at h
    obtain ⟨⟨extra, hex, _⟩, _⟩ := preloadSeg_spec h
    rw [hex, hb]; rfl


/-- what `preload` guarantees about the candidate list of one segment -/
structure CandOK (fs : Fs) (seg : WSeg) (cands : List (Option Path × Bytes)) : Prop where
  pad : seg.ent.isPad = true → cands = [(none, List.replicate seg.len 0)]
  empty : seg.ent.isPad = false → seg.ent.searches = none → cands = [(none, [])]
  all : seg.ent.isPad = false → ∀ paths, seg.ent.searches = some paths →
    ∀ p ∈ paths, ∀ i, fs.look p = .file i → ∃ x ∈ cands, x.2 = fs.readAt i seg.off seg.len
  head : seg.ent.isPad = false → ∀ p ps i, seg.ent.searches = some (p :: ps) → fs.look p = .file i →
    cands.head? = some (some p, fs.readAt i seg.off seg.len)
  sound : seg.ent.isPad = false → ∀ paths, seg.ent.searches = some paths → ∀ c ∈ cands, FromPath fs seg paths c

inductive All2 {α β : Type} (R : α → β → Prop) : List α → List β → Prop
  | nil : All2 R [] []
  | cons {a b l1 l2} : R a b → All2 R l1 l2 → All2 R (a :: l1) (b :: l2)

theorem preload_ext (st : St) (segs : List WSeg) : ROExt st (preload st segs).1 :=
  .of_trace (preload_trace st segs) fun _ => ReadOp.not_mutating

theorem preload_spec {st st' : St} {segs : List WSeg} {loaded : List (List (Option Path × Bytes))}
    (h : preload st segs = (st', .ok loaded)) : All2 (CandOK st.fs) segs loaded := by
  induction segs generalizing st st' loaded with
  | nil =>
    cases h
    exact .nil
  | cons seg rest ih =>
    cases hpad : seg.ent.isPad
    case true =>
      rw [preload_cons_pad hpad] at h
      obtain ⟨rs, hr, rfl⟩ := Res.map_eq_ok h
      refine .cons ⟨fun _ => rfl, ?_, ?_, ?_, ?_⟩ (ih hr) <;> (intro hp; rw [hpad] at hp; cases hp)
    cases hs : seg.ent.searches with
    | none =>
      rw [preload_cons_empty hpad hs] at h
      obtain ⟨rs, hr, rfl⟩ := Res.map_eq_ok h
      refine .cons ⟨?_, fun _ _ => rfl, ?_, ?_, ?_⟩ (ih hr)
      · intro hp; rw [hpad] at hp; cases hp
      · intro _ paths hp; rw [hs] at hp; cases hp
      · intro _ p ps i hp; rw [hs] at hp; cases hp
      · intro _ paths hp; rw [hs] at hp; cases hp
    | some paths =>
      rw [preload_cons_paths hpad hs] at h
      rcases h1 : preloadSeg seg st paths [] with ⟨st1, r | _ | _⟩ <;> rw [h1] at h <;> try cases h
      obtain ⟨rs, hr, rfl⟩ := Res.map_eq_ok h
      have := ih hr
      rw [(ROExt.of_eq h1 (preloadSeg_ext seg st paths [])).fs] at this
      refine .cons ⟨?_, ?_, ?_, ?_, ?_⟩ this
      · intro hp; rw [hpad] at hp; cases hp
      · intro _ hp; rw [hs] at hp; cases hp
      · intro _ paths' hp
        rw [hs] at hp; cases hp
        exact (preloadSeg_spec h1).2
      · intro _ p ps i hp hi
        rw [hs] at hp; cases hp
        exact preloadSeg_head hi h1
      · intro _ paths' hp c hc
        rw [hs] at hp; cases hp
        obtain ⟨⟨extra, hex, hfrom⟩, _⟩ := preloadSeg_spec h1
        rw [hex, List.nil_append] at hc
        exact hfrom c hc

theorem preload_ok {st : St} (hn : NFF st) {segs : List WSeg}
    (hr : ∀ seg ∈ segs, ∀ paths, seg.ent.searches = some paths → ∀ p ∈ paths, ∃ i, st.fs.look p = .file i) :
    ∃ loaded, (preload st segs).2 = .ok loaded := by
  induction segs generalizing st with
  | nil => exact ⟨[], rfl⟩
  | cons seg rest ih =>
    have hrest : ∀ s ∈ rest, ∀ paths, s.ent.searches = some paths → ∀ p ∈ paths, ∃ i, st.fs.look p = .file i :=
      fun s hs => hr s (List.mem_cons_of_mem _ hs)
    cases hpad : seg.ent.isPad
    case true =>
      obtain ⟨l, hl⟩ := ih hn hrest
      rw [preload_cons_pad hpad, hl]
      exact ⟨_, rfl⟩
    cases hs : seg.ent.searches with
    | none =>
      obtain ⟨l, hl⟩ := ih hn hrest
      rw [preload_cons_empty hpad hs, hl]
      exact ⟨_, rfl⟩
    | some paths =>
      obtain ⟨r, hr1⟩ := preloadSeg_ok (seg := seg) hn (hr seg List.mem_cons_self paths hs) []
      rw [preload_cons_paths hpad hs]
      rcases h1 : preloadSeg seg st paths [] with ⟨st1, r' | _ | _⟩ <;> rw [h1] at hr1 <;> try cases hr1
      have e1 := ROExt.of_eq h1 (preloadSeg_ext seg st paths [])
      obtain ⟨l, hl⟩ := ih (e1.nff hn) (by rw [e1.fs]; exact hrest)
      simp only [hl]
      exact ⟨_, rfl⟩

theorem All2.getElem? {α β : Type} {R : α → β → Prop} {l1 : List α} {l2 : List β}
    (h : All2 R l1 l2) :
    l1.length = l2.length ∧ ∀ (k : Nat) a b, l1[k]? = some a → l2[k]? = some b → R a b := by
  induction h with
  | nil => exact ⟨rfl, by simp⟩
  | cons hab _ ih =>
    refine ⟨by simp [ih.1], ?_⟩
    intro k a b ha hb
    cases k with
    | zero => simp at ha hb; subst ha; subst hb; exact hab
    | succ k => simp at ha hb; exact ih.2 k a b ha hb


theorem similarity_eq_zero {p partialT fullT : Path} : similarity p partialT fullT = 0 ↔ p = fullT := by
  unfold similarity
  constructor
  · intro h
    split at h
    · rename_i h'; simpa using h'
    · split at h
      · cases h
      · split at h <;> cases h
  · intro h; simp [h]

theorem sorted_head_le {α : Type} (f : α → Nat) (a : α) (l : List α)
    (h : (List.zip (a :: l) ((a :: l).drop 1)).all (fun pq => decide (f pq.1 ≤ f pq.2)) = true) :
    ∀ x ∈ a :: l, f a ≤ f x := by
  induction l generalizing a with
  | nil => intro x hx; simp at hx; subst hx; exact Nat.le_refl _
  | cons b l ih =>
    simp only [List.drop_one, List.tail_cons, List.zip_cons_cons, List.all_cons, Bool.and_eq_true,
      decide_eq_true_eq] at h
    intro x hx
    rcases List.mem_cons.1 hx with rfl | hx
    · exact Nat.le_refl _
    · have := ih b (by simpa using h.2) x hx
      omega

theorem validSearches_mem {e : TEntry} {m : List (Path × Nat)} {obs : List Path}
    (h : validSearches e m obs = true) :
    ∀ x ∈ m, ∃ p ∈ obs, (∃ y ∈ m, y.1 = p ∧ y.2 = x.2) ∧
      similarity p e.partialTarget e.fullTarget ≤ similarity x.1 e.partialTarget e.fullTarget := by
  unfold validSearches at h
  simp only [Bool.and_eq_true] at h
  -- the fourth clause of `validSearches`: every inode of `m` is named by an observed path of at most its similarity
  obtain ⟨⟨⟨⟨_, _⟩, _⟩, h4⟩, _⟩ := h
  intro x hx
  have := List.all_eq_true.1 h4 x hx
  obtain ⟨p, hp, hpp⟩ := List.any_eq_true.1 this
  simp only [Bool.and_eq_true, decide_eq_true_eq, beq_iff_eq] at hpp
  obtain ⟨hino, hsim⟩ := hpp
  refine ⟨p, hp, ?_, hsim⟩
  rw [Option.map_eq_some_iff] at hino
  obtain ⟨y, hy, hy2⟩ := hino
  have hm := List.mem_of_find?_eq_some hy
  have hp := List.find?_some hy
  exact ⟨y, hm, by simpa using hp, hy2⟩

theorem validSearches_head {e : TEntry} {m : List (Path × Nat)} {obs : List Path}
    (h : validSearches e m obs = true) (a : Path) (l : List Path) (ho : obs = a :: l) :
    ∀ x ∈ obs, similarity a e.partialTarget e.fullTarget ≤ similarity x e.partialTarget e.fullTarget := by
  unfold validSearches at h
  simp only [Bool.and_eq_true] at h
  -- the fifth clause: `obs` is sorted by similarity
  obtain ⟨_, h5⟩ := h
  subst ho
  exact sorted_head_le (fun p => similarity p e.partialTarget e.fullTarget) a l h5


/-- path `p` is registered in the cache under length `l` -/
def Reg (c : Cache) (l : Nat) (p : Path) : Prop := ∃ m, cacheGet c l = some m ∧ ∃ j, (p, j) ∈ m

theorem cacheGet_cons (l' : Nat) (m : List (Path × Nat)) (c : Cache) (l : Nat) :
    cacheGet ((l', m) :: c) l = if l' = l then some m else cacheGet c l := by
  unfold cacheGet
  by_cases h : l' = l
  · simp [h]
  · simp [h]

theorem cacheGet_filter_ne {l' l : Nat} (h : l' ≠ l) (c : Cache) :
    cacheGet (c.filter (fun e => e.1 != l')) l = cacheGet c l := by
  unfold cacheGet
  rw [List.find?_filter]
  congr 2
  funext e
  by_cases he : e.1 = l
  · have : e.1 ≠ l' := by omega
    simp [he]
    omega
  · simp [he]

theorem cacheGet_insert (c : Cache) (l' : Nat) (p' : Path) (i' : Nat) (l : Nat) :
    cacheGet (cacheInsert c l' p' i') l =
      if l' = l then some ((p', i') :: ((cacheGet c l).getD []).filter (fun e => e.1 != p')) else cacheGet c l := by
  unfold cacheInsert
  cases hc : cacheGet c l' with
  | none =>
    simp only [cacheGet_cons]
    split
    · rename_i h; subst h; simp [hc]
    · rfl
  | some m =>
    simp only [cacheGet_cons]
    split
    · rename_i h; subst h; simp [hc]
    · rename_i h; exact cacheGet_filter_ne h c

theorem reg_insert {c : Cache} {l : Nat} {p : Path} (h : Reg c l p) (l' : Nat) (p' : Path) (i' : Nat) :
    Reg (cacheInsert c l' p' i') l p := by
  obtain ⟨m, hm, j, hj⟩ := h
  unfold Reg
  rw [cacheGet_insert]
  split
  · refine ⟨_, rfl, ?_⟩
    by_cases hp : p = p'
    · exact ⟨i', by simp [hp]⟩
    · refine ⟨j, List.mem_cons_of_mem _ ?_⟩
      rw [hm]
      simp only [Option.getD_some]
      exact List.mem_filter.2 ⟨hj, by simpa using hp⟩
  · exact ⟨m, hm, j, hj⟩

theorem reg_insert_self (c : Cache) (l : Nat) (p : Path) (i : Nat) : Reg (cacheInsert c l p i) l p := by
  unfold Reg
  rw [cacheGet_insert]
  simp only [if_true]
  exact ⟨_, rfl, i, by simp⟩

/-- one step of `addByDirectory` -/
def addStep (fs : Fs) (dir : Path) (lengths : List Nat) (c : Cache) (e : Path × Nat) : Cache :=
  let len := (fs.content e.2).length
  if dir.length ≤ e.1.length && e.1.take dir.length == dir && e.1 != dir && lengths.contains len
  then cacheInsert c len e.1 e.2 else c

theorem addByDirectory_eq (fs : Fs) (c : Cache) (dir : Path) (lengths : List Nat) :
    addByDirectory fs c dir lengths = fs.files.foldl (addStep fs dir lengths) c := rfl

theorem reg_addStep {c : Cache} {l : Nat} {p : Path} (h : Reg c l p) (fs : Fs) (dir : Path) (lengths : List Nat)
    (e : Path × Nat) : Reg (addStep fs dir lengths c e) l p := by
  unfold addStep
  simp only
  split
  · exact reg_insert h _ _ _
  · exact h

theorem reg_foldl {c : Cache} {l : Nat} {p : Path} (h : Reg c l p) (fs : Fs) (dir : Path) (lengths : List Nat)
    (files : List (Path × Nat)) : Reg (files.foldl (addStep fs dir lengths) c) l p := by
  induction files generalizing c with
  | nil => exact h
  | cons e es ih => exact ih (reg_addStep h fs dir lengths e)

theorem foldl_registers (fs : Fs) (dir : Path) (lengths : List Nat) (files : List (Path × Nat)) (c : Cache)
    (p : Path) (i : Nat) (hmem : (p, i) ∈ files)
    (hdir : dir.length < p.length ∧ p.take dir.length = dir)
    (hlen : lengths.contains (fs.content i).length = true) :
    Reg (files.foldl (addStep fs dir lengths) c) (fs.content i).length p := by
  induction files generalizing c with
  | nil => cases hmem
  | cons e es ih =>
    rcases List.mem_cons.1 hmem with rfl | h
    · rw [List.foldl_cons]
      apply reg_foldl
      unfold addStep
      have hne : p ≠ dir := by
        intro h; rw [h] at hdir; omega
      have : (dir.length ≤ p.length && p.take dir.length == dir && p != dir &&
          lengths.contains (fs.content i).length) = true := by
        simp only [Bool.and_eq_true, decide_eq_true_eq, bne_iff_ne, beq_iff_eq, ne_eq]
        exact ⟨⟨⟨by omega, hdir.2⟩, hne⟩, hlen⟩
      simp only [this, if_true]
      exact reg_insert_self _ _ _ _
    · exact ih _ h


theorem picks_of_cands (parts : List Bytes) (loaded : List (List (Option Path × Bytes)))
    (hlen : parts.length = loaded.length)
    (h : ∀ (k : Nat) part cands, parts[k]? = some part → loaded[k]? = some cands → ∃ x ∈ cands, x.2 = part) :
    ∃ picks : List (Option Path × Bytes), picks.length = loaded.length ∧
      (∀ k (hk : k < picks.length) (hl : k < loaded.length), picks[k] ∈ loaded[k]) ∧
      picks.flatMap (·.2) = parts.flatten := by
  induction parts generalizing loaded with
  | nil =>
    cases loaded with
    | nil => exact ⟨[], rfl, fun k hk => (by cases hk), rfl⟩
    | cons _ _ => simp at hlen
  | cons part parts ih =>
    cases loaded with
    | nil => simp at hlen
    | cons cands loaded =>
      obtain ⟨x, hx, hxp⟩ := h 0 part cands (by simp) (by simp)
      obtain ⟨picks, hpl, hpm, hpf⟩ := ih loaded (by simpa using hlen) (fun k part cands hp hc =>
        h (k + 1) part cands (by simpa using hp) (by simpa using hc))
      refine ⟨x :: picks, by simp [hpl], ?_, by simp [hpf, hxp]⟩
      intro k hk hl
      cases k with
      | zero => simpa using hx
      | succ k =>
        simp only [List.getElem_cons_succ]
        exact hpm k (by simpa using hk) (by simpa using hl)

theorem cand_supplies {fs : Fs} {seg : WSeg} {cands : List (Option Path × Bytes)} {part : Bytes}
    (hc : CandOK fs seg cands)
    (hreadable : ∀ paths, seg.ent.searches = some paths → ∀ p ∈ paths, ∃ i, fs.look p = .file i)
    (hne : seg.ent.searches ≠ some [])
    (hav : (seg.ent.isPad = true → part = List.replicate seg.len 0) ∧
        (seg.ent.isPad = false → seg.len = 0 → part = []) ∧
        (seg.ent.isPad = false → seg.len ≠ 0 →
          ∃ paths p i, seg.ent.searches = some paths ∧ p ∈ paths ∧ fs.look p = .file i
            ∧ part = fs.readAt i seg.off seg.len)) :
    ∃ x ∈ cands, x.2 = part := by
  cases hpad : seg.ent.isPad with
  | true =>
    rw [hc.pad hpad, hav.1 hpad]
    exact ⟨_, List.mem_singleton.2 rfl, rfl⟩
  | false =>
    by_cases hl : seg.len = 0
    · rw [hav.2.1 hpad hl]
      cases hs : seg.ent.searches with
      | none => rw [hc.empty hpad hs]; exact ⟨_, List.mem_singleton.2 rfl, rfl⟩
      | some paths =>
        cases paths with
        | nil => exact absurd hs hne
        | cons p ps =>
          obtain ⟨i, hi⟩ := hreadable _ hs p (by simp)
          obtain ⟨x, hx, hxb⟩ := hc.all hpad _ hs p (by simp) i hi
          rw [hl, readAt_zero] at hxb
          exact ⟨x, hx, hxb⟩
    · obtain ⟨paths, p, i, hs, hp, hi, hpart⟩ := hav.2.2 hpad hl
      obtain ⟨x, hx, hxb⟩ := hc.all hpad _ hs p hp i hi
      exact ⟨x, hx, by rw [hxb, hpart]⟩


theorem mem_zip_map_self {α β : Type} (g : α → β) (l : List α) : ∀ x ∈ List.zip l (l.map g), x.2 = g x.1 := by
  induction l with
  | nil => intro x hx; cases hx
  | cons a l ih =>
    intro x hx
    simp only [List.map_cons, List.zip_cons_cons, List.mem_cons] at hx
    rcases hx with rfl | hx
    · rfl
    · exact ih x hx

/-- the candidate the export tree itself supplies for a segment -/
def firstOf (fs : Fs) (s : WSeg) : Option Path × Bytes :=
  (if s.ent.isPad then none else some s.ent.fullTarget, (segBytesIn fs s).getD [])

theorem cand_head {fs : Fs} {seg : WSeg} {cands : List (Option Path × Bytes)} (hc : CandOK fs seg cands)
    (hfirst : seg.ent.isPad = false →
      ∃ rest i, seg.ent.searches = some (seg.ent.fullTarget :: rest) ∧ fs.look seg.ent.fullTarget = .file i
        ∧ seg.off + seg.len ≤ (fs.content i).length) :
    cands.head? = some (firstOf fs seg) := by
  unfold firstOf segBytesIn
  cases hpad : seg.ent.isPad with
  | true => rw [hc.pad hpad]; simp
  | false =>
    obtain ⟨rest, i, hs, hi, hle⟩ := hfirst hpad
    rw [hc.head hpad _ _ i hs hi]
    simp [hi, hle]

end TB.RC