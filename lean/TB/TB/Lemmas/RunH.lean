/-
  Why a run on loadable torrents never panics (`run_no_panic`): the metadata table is complete, so the work list
  can always be built (no `unwrap` on a missing entry), and a single-segment work item is never empty, so it is
  rejected up front or has a candidate list when the single-file matcher unwraps it.
-/
import TB.Spec.ExportSpec
import TB.Props.C06
import TB.Props.C10
import TB.Props.C16
import TB.Lemmas.RunARun
import TB.Lemmas.RunY
namespace TB.RunH

theorem entriesOfFiles_complete (exportDir : Path) (t : Torrent) (fs : List FileRec) (idx id k : Nat)
    (hk : k < fs.length) :
    ∃ e ∈ entriesOfFiles exportDir t fs idx id, e.infoHash = t.infoHash ∧ e.fileIndex = idx + k := by
  induction fs generalizing idx id k with
  | nil => simp at hk
  | cons f fs ih =>
    simp only [entriesOfFiles]
    cases k with
    | zero => exact ⟨_, List.mem_cons_self, rfl, rfl⟩
    | succ k =>
      obtain ⟨e, he, h1, h2⟩ := ih (idx + 1) (id + 1) k (by simpa using hk)
      exact ⟨e, List.mem_cons_of_mem _ he, h1, by omega⟩

theorem buildTable_cons_suffix (exportDir : Path) (u : Torrent) (us : List Torrent) (id0 : Nat) :
    ∃ pre id', buildTable exportDir (u :: us) id0 = pre ++ buildTable exportDir us id' := by
  simp only [buildTable]
  split
  · exact ⟨_, _, rfl⟩
  · exact ⟨[_], _, rfl⟩
  · exact ⟨[], _, rfl⟩

theorem buildTable_complete (exportDir : Path) (ts : List Torrent) (id0 : Nat) (t : Torrent) (ht : t ∈ ts) :
    (∀ l, t.info.files = none → t.info.length = some l →
        ∃ e ∈ buildTable exportDir ts id0, e.infoHash = t.infoHash ∧ e.fileIndex = 0) ∧
    (∀ fs, t.info.files = some fs → ∀ k, k < fs.length →
        ∃ e ∈ buildTable exportDir ts id0, e.infoHash = t.infoHash ∧ e.fileIndex = k) := by
  induction ts generalizing id0 with
  | nil => cases ht
  | cons u us ih =>
    rcases List.mem_cons.1 ht with rfl | ht
    · constructor
      · intro l hf hl
        simp only [buildTable, hf, hl]
        exact ⟨_, List.mem_cons_self, rfl, rfl⟩
      · intro fs hf k hk
        simp only [buildTable, hf]
        obtain ⟨e, he, h1, h2⟩ := entriesOfFiles_complete exportDir t fs 0 id0 k hk
        exact ⟨e, List.mem_append_left _ he, h1, by simpa using h2⟩
    · obtain ⟨pre, id', hpre⟩ := buildTable_cons_suffix exportDir u us id0
      rw [hpre]
      obtain ⟨i1, i2⟩ := ih id' ht
      constructor
      · intro l hf hl
        obtain ⟨e, he, h⟩ := i1 l hf hl
        exact ⟨e, List.mem_append_right _ he, h⟩
      · intro fs hf k hk
        obtain ⟨e, he, h⟩ := i2 fs hf k hk
        exact ⟨e, List.mem_append_right _ he, h⟩

theorem lookupEntry_isSome (table : List TEntry) (ih : Bytes) (k : Nat)
    (h : ∃ e ∈ table, e.infoHash = ih ∧ e.fileIndex = k) : (lookupEntry table ih k).isSome = true := by
  obtain ⟨e, he, h1, h2⟩ := h
  unfold lookupEntry
  rw [List.find?_isSome]
  exact ⟨e, he, by simp [h1, h2]⟩

theorem populate_entry (c : Cache) (obs : List (Nat × List Path)) (es : List TEntry) (ih : Bytes) (k : Nat)
    (h : ∃ e ∈ es, e.infoHash = ih ∧ e.fileIndex = k) :
    ∃ e ∈ (populateSearches c obs es).1, e.infoHash = ih ∧ e.fileIndex = k := by
  obtain ⟨e, he, h1, h2⟩ := h
  obtain ⟨e', he', s, rfl⟩ := (populateSearches_rel c obs es).1 e he
  exact ⟨_, he', h1, h2⟩

theorem _root_.TB.PieceOk.flat {L : Nat} {fl : List Nat} {hashes : List Bytes} {i : Nat} {p : Piece}
    (h : PieceOk L fl hashes i p) : p.segs.flatMap (addr fl) = List.range' (i * L) (min L (fl.sum - i * L)) := h.1

theorem _root_.TB.PieceOk.seg {L : Nat} {fl : List Nat} {hashes : List Bytes} {i : Nat} {p : Piece}
    (h : PieceOk L fl hashes i p) {s : Seg} (hs : s ∈ p.segs) :
    some s.flen = fl[s.file]? ∧ s.off + s.len ≤ s.flen ∧ (s.len = 0 → s.flen = 0) := h.2.2.2.2.1 s hs

theorem _root_.TB.PieceOk.files_incr {L : Nat} {fl : List Nat} {hashes : List Bytes} {i : Nat} {p : Piece}
    (h : PieceOk L fl hashes i p) : (p.segs.map (·.file)).Pairwise (· < ·) := h.2.2.2.2.2

/-- what the layout of a loadable torrent satisfies: empty, or the C06 partition over the file-length list -/
def LayoutOk (t : Torrent) (ps : List Piece) : Prop :=
  ps = [] ∨ ∃ fl : List Nat, 0 < t.info.pieceLength
    ∧ t.info.pieces.length = (fl.sum + t.info.pieceLength - 1) / t.info.pieceLength
    ∧ ps.length = t.info.pieces.length
    ∧ (∀ i (hi : i < ps.length), PieceOk t.info.pieceLength fl t.info.pieces i ps[i])
    ∧ ((∃ l, t.info.files = none ∧ t.info.length = some l ∧ fl = [l])
       ∨ (∃ fs, t.info.files = some fs ∧ fl = fs.map (·.length)))

theorem layout_of_load (H : Bytes → Bytes) (doc : Bytes) (t : Torrent) (h : load H doc = .ok t) :
    ∃ ps, constructPieces t.info.pieceLength t.info.length (t.info.files.map (·.map (·.length))) t.info.pieces
        = some ps ∧ LayoutOk t ps := by
  obtain ⟨_, _, _, _, hc⟩ := C10_loaded_wf H doc t h
  rcases hc with ⟨l, hl, hf, _, hpc⟩ | ⟨fs, hl, hf, hne, _, hpc⟩
  · rw [hl, hf]
    simp only [constructPieces]
    unfold pieceCountOk at hpc
    by_cases h0 : t.info.pieceLength = 0
    · simp only [h0, if_true, Bool.and_eq_true, decide_eq_true_eq] at hpc
      have hnil : t.info.pieces = [] := List.eq_nil_of_length_eq_zero hpc.2
      refine ⟨_, rfl, .inl ?_⟩
      rw [hnil]; rfl
    · simp only [h0, if_false, decide_eq_true_eq] at hpc
      have hL := Nat.pos_of_ne_zero h0
      obtain ⟨hlen, hok⟩ := C06_partition_single _ l _ hL hpc
      exact ⟨_, rfl, .inr ⟨[l], hL, by simpa using hpc, hlen, hok, .inl ⟨l, hf, hl, rfl⟩⟩⟩
  · rw [hl, hf]
    simp only [Option.map_some, constructPieces]
    have hne' : fs.map (·.length) ≠ [] := by simpa using hne
    unfold pieceCountOk at hpc
    by_cases h0 : t.info.pieceLength = 0
    · simp only [h0, if_true, Bool.and_eq_true, decide_eq_true_eq] at hpc
      have hnil : t.info.pieces = [] := List.eq_nil_of_length_eq_zero hpc.2
      rw [hnil, h0]
      refine ⟨[], ?_, .inl rfl⟩
      have := C06_zero_piece_length none _ hne'
      simpa [constructPieces] using this
    · simp only [h0, if_false, decide_eq_true_eq] at hpc
      have hL := Nat.pos_of_ne_zero h0
      obtain ⟨ps, hps, hlen, hok⟩ := C06_partition_multi _ _ _ hL hne' hpc
      exact ⟨ps, hps, .inr ⟨_, hL, hpc, hlen, hok, .inr ⟨fs, hf, rfl⟩⟩⟩

theorem LayoutOk.file_lt {t : Torrent} {ps : List Piece} (h : LayoutOk t ps) :
    ∀ p ∈ ps, ∀ s ∈ p.segs,
      (∃ l, t.info.files = none ∧ t.info.length = some l ∧ s.file = 0)
      ∨ (∃ fs, t.info.files = some fs ∧ s.file < fs.length) := by
  intro p hp s hs
  rcases h with rfl | ⟨fl, _, _, _, hok, hfl⟩
  · cases hp
  · obtain ⟨i, hi, rfl⟩ := List.mem_iff_getElem.1 hp
    have hseg := ((hok i hi).seg hs).1
    have hlt : s.file < fl.length := by
      by_cases hlt : s.file < fl.length
      · exact hlt
      · rw [List.getElem?_eq_none (by omega)] at hseg
        cases hseg
    rcases hfl with ⟨l, hf, hl, rfl⟩ | ⟨fs, hf, rfl⟩
    · exact .inl ⟨l, hf, hl, by simpa using hlt⟩
    · exact .inr ⟨fs, hf, by simpa using hlt⟩

theorem LayoutOk.single_pos {t : Torrent} {ps : List Piece} (h : LayoutOk t ps) :
    ∀ p ∈ ps, ∀ s, p.segs = [s] → s.len ≠ 0 := by
  intro p hp s hs
  rcases h with rfl | ⟨fl, hL, hcount, hlen, hok, _⟩
  · cases hp
  · obtain ⟨i, hi, rfl⟩ := List.mem_iff_getElem.1 hp
    -- the one segment covers the whole window of piece `i`, `min L (fl.sum - i·L)` addresses; the window is not
    -- empty because piece `i` exists: `i + 1 ≤ ⌈fl.sum / L⌉`, so `i·L < fl.sum`
    have hflat := (hok i hi).flat
    rw [hs] at hflat
    have hl := congrArg List.length hflat
    simp [addr] at hl
    have hi' : i + 1 ≤ (fl.sum + t.info.pieceLength - 1) / t.info.pieceLength := by omega
    rw [Nat.le_div_iff_mul_le hL, Nat.add_mul] at hi'
    omega

theorem workOfTorrent_isSome (H : Bytes → Bytes) (table : List TEntry) (t : Torrent)
    (hload : ∃ doc, load H doc = .ok t)
    (htab : (∀ l, t.info.files = none → t.info.length = some l →
                ∃ e ∈ table, e.infoHash = t.infoHash ∧ e.fileIndex = 0) ∧
            (∀ fs, t.info.files = some fs → ∀ k, k < fs.length →
                ∃ e ∈ table, e.infoHash = t.infoHash ∧ e.fileIndex = k)) :
    (workOfTorrent table t).isSome = true := by
  obtain ⟨doc, hdoc⟩ := hload
  obtain ⟨ps, hps, hlay⟩ := layout_of_load H doc t hdoc
  unfold workOfTorrent
  rw [hps]
  simp only
  apply mapM_isSome
  intro p hp
  unfold workOfPiece
  have hsegs : (p.segs.mapM (fun s => (lookupEntry table t.infoHash s.file).map
      (fun e => (⟨s.len, s.off, e⟩ : WSeg)))).isSome = true := by
    apply mapM_isSome
    intro s hs
    rw [Option.isSome_map]
    apply lookupEntry_isSome
    rcases hlay.file_lt p hp s hs with ⟨l, hf, hl, h0⟩ | ⟨fs, hf, hlt⟩
    · rw [h0]; exact htab.1 l hf hl
    · exact htab.2 fs hf _ hlt
  rcases hm : p.segs.mapM (fun s => (lookupEntry table t.infoHash s.file).map
      (fun e => (⟨s.len, s.off, e⟩ : WSeg))) with _ | segs
  · rw [hm] at hsegs; cases hsegs
  · rw [hm]; rfl

theorem convert_isSome (H : Bytes → Bytes) (exportDir : Path) (all ts : List Torrent) (c : Cache)
    (obs : List (Nat × List Path))
    (hsub : ∀ t ∈ ts, t ∈ all) (hload : ∀ t ∈ ts, ∃ doc, load H doc = .ok t) :
    (convertPiecesToWork (populateSearches c obs (buildTable exportDir all 0)).1 ts).isSome = true := by
  induction ts with
  | nil => rfl
  | cons t ts ih =>
    have h1 : (workOfTorrent (populateSearches c obs (buildTable exportDir all 0)).1 t).isSome = true := by
      apply workOfTorrent_isSome H _ t (hload t List.mem_cons_self)
      obtain ⟨b1, b2⟩ := buildTable_complete exportDir all 0 t (hsub t List.mem_cons_self)
      exact ⟨fun l hf hl => populate_entry _ _ _ _ _ (b1 l hf hl),
             fun fs hf k hk => populate_entry _ _ _ _ _ (b2 fs hf k hk)⟩
    have h2 := ih (fun x hx => hsub x (List.mem_cons_of_mem _ hx)) (fun x hx => hload x (List.mem_cons_of_mem _ hx))
    unfold convertPiecesToWork
    rcases ha : workOfTorrent (populateSearches c obs (buildTable exportDir all 0)).1 t with _ | a
    · rw [ha] at h1; cases h1
    · rcases hb : convertPiecesToWork (populateSearches c obs (buildTable exportDir all 0)).1 ts with _ | b
      · rw [hb] at h2; cases h2
      · rfl

theorem workOfTorrent_single (H : Bytes → Bytes) (table : List TEntry) (t : Torrent) (ws : List Work)
    (hload : ∃ doc, load H doc = .ok t) (hw : workOfTorrent table t = some ws) :
    ∀ w ∈ ws, ∀ s, w.segs = [s] → s.len ≠ 0 := by
  obtain ⟨doc, hdoc⟩ := hload
  obtain ⟨ps, hps, hlay⟩ := layout_of_load H doc t hdoc
  unfold workOfTorrent at hw
  rw [hps] at hw
  simp only at hw
  intro w hwm s hs
  obtain ⟨p, hp, hpw⟩ := mapM_option_mem hw w hwm
  unfold workOfPiece at hpw
  split at hpw
  · rename_i segs hm
    cases hpw
    simp only at hs
    subst hs
    obtain ⟨s0, hs0, hf⟩ := mapM_singleton _ _ _ hm
    have := hlay.single_pos p hp s0 hs0
    simp only [Option.map_eq_some_iff] at hf
    obtain ⟨e, _, rfl⟩ := hf
    exact this
  · cases hpw

theorem convert_mem {table : List TEntry} {ts : List Torrent} {ws : List Work}
    (h : convertPiecesToWork table ts = some ws) :
    ∀ w ∈ ws, ∃ t ∈ ts, ∃ wt, workOfTorrent table t = some wt ∧ w ∈ wt := by
  induction ts generalizing ws with
  | nil => simp [convertPiecesToWork] at h; subst h; intro w hw; cases hw
  | cons t ts ih =>
    unfold convertPiecesToWork at h
    split at h
    · rename_i a b ha hb
      cases h
      intro w hw
      rcases List.mem_append.1 hw with hw | hw
      · exact ⟨t, List.mem_cons_self, a, ha, hw⟩
      · obtain ⟨t', ht', r⟩ := ih hb w hw
        exact ⟨t', List.mem_cons_of_mem _ ht', r⟩
    · cases h

theorem solveAll_no_panic (H : Bytes → Bytes) (ws : List Work)
    (h : ∀ w ∈ ws, ∀ st, (solvePiece H st w).2 ≠ .panic) (st : St) (c : Counters) (acc : List Counters) :
    (solveAll H st ws c acc).2.2 = false := by
  induction ws generalizing st c acc with
  | nil => rfl
  | cons w ws ih =>
    rw [TB.RB.solveAll_cons, if_neg (h w List.mem_cons_self st)]
    exact ih (fun x hx => h x (List.mem_cons_of_mem _ hx)) _ _ _

/-- a run on loadable torrents never ends in `panic`: the work list can be built, and no single-segment work item is an
    empty non-padding segment, which is all that evaluating a piece needs (`solvePiece_ne_panic`) -/
theorem run_no_panic (H : Bytes → Bytes) (inp : RunIn) (hload : ∀ t ∈ inp.torrents, ∃ doc, load H doc = .ok t) :
    (run H inp).result ≠ .panic := by
  have hl : ∀ t ∈ dedupTorrents (sortTorrents inp.torrents), ∃ doc, load H doc = .ok t :=
    fun t ht => hload t ((RB.mem_sortTorrents _ _).1 (RB.dedupTorrents_mem _ t ht))
  by_cases hne : inp.torrents = []
  · rw [RB.run_nil H inp hne]
    exact fun hc => by cases hc
  rcases RB.run_stages H inp hne with ⟨_, h⟩ | ⟨_, _, _, h⟩ | ⟨_, _, h⟩ <;> rw [h]
  · exact fun hc => by cases hc
  · exact fun hc => by cases hc
  · rcases RB.runSolve_cases H (dedupTorrents (sortTorrents inp.torrents)) inp.order
      (populateSearches (RunQ.cacheOf inp) inp.searchObs (RB.runTable0 inp))
      with ⟨hnone, _⟩ | ⟨work, ok, hwork, h2⟩
    · have hsome : (convertPiecesToWork (populateSearches (RunQ.cacheOf inp) inp.searchObs (RB.runTable0 inp)).1
          (dedupTorrents (sortTorrents inp.torrents))).isSome = true :=
        convert_isSome H inp.exportDir.path _ _ _ inp.searchObs (fun _ ht => ht) hl
      rw [hnone] at hsome
      cases hsome
    · rw [h2]
      show (if _ then Res.panic else Res.ok ()) ≠ _
      rw [solveAll_no_panic H _ fun w hw st => solvePiece_ne_panic H st w fun s hs => ?_]
      · exact fun hc => by cases hc
      · obtain ⟨t, ht, wt, hwt, hwin⟩ := convert_mem hwork w (RB.evalOrder_mem w hw)
        exact .inl (workOfTorrent_single H _ t wt (hl t ht) hwt w hwin s hs)

end TB.RunH
