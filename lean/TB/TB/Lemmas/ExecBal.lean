/-
  `balance` (C05): what the invariants use of `BalSpec` and `emptyTail`, and the reference
  `balance` (`balanceRef`, round-robin dealing) meets `BalSpec`.
-/
import TB.Lemmas.ExecBase
namespace TB.Exec

theorem takeWhile_spec {α : Type} (p : α → Bool) (l : List α) :
    (∀ m x, m < (l.takeWhile p).length → l[m]? = some x → p x = true) ∧
      ∀ x, l[(l.takeWhile p).length]? = some x → p x = false := by
  induction l with
  | nil => exact ⟨nofun, nofun⟩
  | cons a l ih =>
    rw [List.takeWhile_cons]
    cases hp : p a with
    | false => exact ⟨nofun, fun x hx => by cases hx; exact hp⟩
    | true =>
      refine ⟨fun m x hm hx => ?_, fun x hx => ih.2 x hx⟩
      cases m with
      | zero => cases hx; exact hp
      | succ m => exact ih.1 m x (Nat.lt_of_succ_lt_succ hm) hx

theorem reverse_take_getElem? {α : Type} (qs : List α) {a m j : Nat} (ha : a ≤ qs.length) (h : m + j + 1 = a) :
    (qs.take a).reverse[m]? = qs[j]? := by
  rw [List.getElem?_reverse' (j := j) (by rw [List.length_take, Nat.min_eq_left ha]; exact h),
    List.getElem?_take, if_pos (h ▸ Nat.lt_succ_of_le (Nat.le_add_left j m))]

theorem emptyTail_spec (qs : List (List Nat)) (a : Nat) (ha : a ≤ qs.length) (j : Nat)
    (h1 : a - emptyTail qs a ≤ j) (h2 : j < a) : qs[j]?.getD [] = [] := by
  obtain ⟨m, hm⟩ := Nat.exists_eq_add_of_lt h2
  obtain ⟨q, hq⟩ : ∃ q, qs[j]? = some q := ⟨_, List.getElem?_eq_getElem (Nat.lt_of_lt_of_le h2 ha)⟩
  rw [hq]
  exact List.isEmpty_iff.1 ((takeWhile_spec (fun x : List Nat => x.isEmpty) (qs.take a).reverse).1 m q
    (by unfold emptyTail at h1; omega) ((reverse_take_getElem? qs ha (by omega)).trans hq))

theorem emptyTail_stop (qs : List (List Nat)) {a j : Nat} (ha : a ≤ qs.length) (h : emptyTail qs a + j + 1 = a) :
    qs[j]?.getD [] ≠ [] := by
  have hj : j < a := h ▸ Nat.lt_succ_of_le (Nat.le_add_left j _)
  obtain ⟨q, hq⟩ : ∃ q, qs[j]? = some q := ⟨_, List.getElem?_eq_getElem (Nat.lt_of_lt_of_le hj ha)⟩
  rw [hq]
  intro (h0 : q = [])
  have := (takeWhile_spec (fun x : List Nat => x.isEmpty) (qs.take a).reverse).2 q
    ((reverse_take_getElem? qs ha h).trans hq)
  rw [h0] at this
  cases this

/-- after `balance`, the queues before the empty tail are all non-empty: the sizes do not increase with the index -/
theorem bal_nonempty {bal : Bal} (hb : BalSpec bal) {A : Nat} {Q : List (List Nat)} (hA : 0 < A) (hle : A ≤ Q.length)
    {k : Nat} (hk : k < A - emptyTail (bal A Q) A) : (bal A Q)[k]?.getD [] ≠ [] := by
  obtain ⟨hlen, _, _, hsz⟩ := hb A Q hA hle
  generalize he : emptyTail (bal A Q) A = e at hk
  obtain ⟨j, hj⟩ := Nat.exists_eq_add_of_lt (Nat.lt_of_sub_pos (Nat.zero_lt_of_lt hk))
  have hkA : k < A := Nat.lt_of_lt_of_le hk (Nat.sub_le _ _)
  have hkj : k ≤ j := by
    rw [hj, Nat.add_assoc, Nat.add_sub_cancel_left] at hk
    exact Nat.le_of_lt_succ hk
  have hmono : ((bal A Q)[j]?.getD []).length ≤ ((bal A Q)[k]?.getD []).length := by
    rw [hsz j (Nat.lt_of_lt_of_eq (Nat.lt_succ_of_le (Nat.le_add_left j _)) hj.symm),
      hsz k hkA]
    refine Nat.add_le_add_left ?_ _
    by_cases hjr : j < (Q.take A).flatten.length % A
    · rw [if_pos hjr, if_pos (Nat.lt_of_le_of_lt hkj hjr)]
      exact Nat.le_refl 1
    · rw [if_neg hjr]
      exact Nat.zero_le _
  intro h0
  rw [h0] at hmono
  exact emptyTail_stop (bal A Q) (hlen ▸ hle) (by rw [he]; exact hj.symm)
    (List.eq_nil_of_length_eq_zero (Nat.le_zero.1 hmono))

theorem flatten_take_drop (a : Nat) (l : List (List Nat)) : l.flatten = (l.take a).flatten ++ (l.drop a).flatten := by
  rw [← List.flatten_append, List.take_append_drop]

theorem bal_flatten_perm {bal : Bal} (hb : BalSpec bal) {A : Nat} {Q : List (List Nat)} (hA : 0 < A)
    (hle : A ≤ Q.length) : (bal A Q).flatten.Perm Q.flatten := by
  obtain ⟨_, hdrop, hperm, _⟩ := hb A Q hA hle
  rw [flatten_take_drop A (bal A Q), flatten_take_drop A Q, hdrop]
  exact hperm.append_right _

/-- number of items queue `j` has received after `k` deals (round-robin over `a` queues) -/
def dealt (a k j : Nat) : Nat := k / a + (if j < k % a then 1 else 0)

theorem dealt_zero (a j : Nat) : dealt a 0 j = 0 := by
  unfold dealt
  rw [Nat.zero_div, Nat.zero_mod, if_neg (Nat.not_lt_zero j)]

theorem succ_div_mod (a k : Nat) (ha : 0 < a) :
    (k % a + 1 < a ∧ (k + 1) / a = k / a ∧ (k + 1) % a = k % a + 1) ∨
      (k % a + 1 = a ∧ (k + 1) / a = k / a + 1 ∧ (k + 1) % a = 0) := by
  have hk : k % a + a * (k / a) = k := Nat.mod_add_div k a
  rcases Nat.lt_or_eq_of_le (Nat.mod_lt k ha : k % a + 1 ≤ a) with h | h
  · exact .inl ⟨h, (Nat.div_mod_unique ha).2 ⟨by rw [Nat.add_right_comm, hk], h⟩⟩
  · exact .inr ⟨h, (Nat.div_mod_unique ha).2 ⟨by rw [Nat.mul_add, Nat.mul_one]; omega, ha⟩⟩

theorem dealt_succ (a k j : Nat) (ha : 0 < a) (hj : j < a) :
    dealt a (k + 1) j = dealt a k j + (if j = k % a then 1 else 0) := by
  unfold dealt
  rcases succ_div_mod a k ha with ⟨_, hd, hm⟩ | ⟨h, hd, hm⟩ <;> rw [hd, hm]
  · rcases Nat.lt_trichotomy j (k % a) with h1 | h1 | h1
    · rw [if_pos (Nat.lt_succ_of_lt h1), if_pos h1, if_neg (Nat.ne_of_lt h1)]
    · rw [if_pos (h1 ▸ Nat.lt_succ_self j), if_neg (h1 ▸ Nat.lt_irrefl j), if_pos h1]
    · rw [if_neg (Nat.not_lt.2 h1), if_neg (Nat.lt_asymm h1), if_neg (Nat.ne_of_gt h1)]
  · rcases Nat.lt_or_eq_of_le (Nat.le_of_lt_succ (h ▸ hj)) with h1 | h1
    · rw [if_neg (Nat.not_lt_zero j), if_pos h1, if_neg (Nat.ne_of_lt h1)]
    · rw [if_neg (Nat.not_lt_zero j), if_neg (h1 ▸ Nat.lt_irrefl j), if_pos h1]

theorem dealAux_length (a : Nat) (xs : List Nat) (k : Nat) (qs : List (List Nat)) :
    (dealAux a xs k qs).length = qs.length := by
  induction xs generalizing k qs with
  | nil => rfl
  | cons x xs ih => exact (ih ..).trans List.length_set

theorem dealAux_drop (a : Nat) (ha : 0 < a) (xs : List Nat) (k : Nat) (qs : List (List Nat)) :
    (dealAux a xs k qs).drop a = qs.drop a := by
  induction xs generalizing k qs with
  | nil => rfl
  | cons x xs ih => exact (ih ..).trans (by rw [List.drop_set, if_pos (Nat.mod_lt k ha)])

theorem dealAux_perm (a : Nat) (ha : 0 < a) (xs : List Nat) (k : Nat) (qs : List (List Nat))
    (hlen : a ≤ qs.length) : List.Perm (dealAux a xs k qs).flatten (qs.flatten ++ xs) := by
  induction xs generalizing k qs with
  | nil => exact .of_eq (List.append_nil _).symm
  | cons x xs ih =>
    have hlt : k % a < qs.length := Nat.lt_of_lt_of_le (Nat.mod_lt k ha) hlen
    refine (ih (k + 1) _ (by rw [List.length_set]; exact hlen)).trans ?_
    -- the queue that receives `x`, before and after
    have h := flatMap_set_perm id (b := qs[k % a]?.getD [] ++ [x]) (List.getElem?_eq_getElem hlt)
    rw [List.flatMap_id, List.flatMap_id, List.getElem?_eq_getElem hlt] at h
    have h' : (qs.set (k % a) (qs[k % a] ++ [x])).flatten.Perm (x :: qs.flatten) :=
      (List.perm_append_left_iff qs[k % a]).1 (h.trans (.of_eq (List.append_assoc ..)))
    rw [List.getElem?_eq_getElem hlt]
    exact (h'.append_right xs).trans (.trans (.of_eq (List.cons_append ..)) List.perm_middle.symm)

theorem dealAux_sizes (a : Nat) (ha : 0 < a) (xs : List Nat) (k : Nat) (qs : List (List Nat))
    (hlen : a ≤ qs.length) (h : ∀ j, j < a → (qs[j]?.getD []).length = dealt a k j) :
    ∀ j, j < a → ((dealAux a xs k qs)[j]?.getD []).length = dealt a (k + xs.length) j := by
  induction xs generalizing k qs with
  | nil => exact h
  | cons x xs ih =>
    have hlt : k % a < qs.length := Nat.lt_of_lt_of_le (Nat.mod_lt k ha) hlen
    rw [List.length_cons, ← Nat.add_assoc, Nat.add_right_comm]
    refine ih (k + 1) _ (by rw [List.length_set]; exact hlen) (fun j hj => ?_)
    rw [dealt_succ a k j ha hj, ← h j hj]
    by_cases hjk : j = k % a
    · rw [hjk, List.getElem?_set_self hlt, if_pos rfl]
      exact List.length_append
    · rw [List.getElem?_set_ne (Ne.symm hjk), if_neg hjk]
      rfl

theorem balanceRef_spec : BalSpec balanceRef := by
  intro a qs ha hlen
  have hmin : min a qs.length = a := Nat.min_eq_left hlen
  unfold balanceRef
  rw [if_neg (Nat.ne_of_gt ha), hmin]
  have hrl : (List.replicate a ([] : List Nat)).length = a := List.length_replicate
  have hclen : (List.replicate a ([] : List Nat) ++ qs.drop a).length = qs.length := by
    rw [List.length_append, hrl, List.length_drop, Nat.add_sub_cancel' hlen]
  have hcdrop : (List.replicate a ([] : List Nat) ++ qs.drop a).drop a = qs.drop a := by
    rw [List.drop_append_of_le_length (Nat.le_of_eq hrl.symm), List.drop_of_length_le (Nat.le_of_eq hrl),
      List.nil_append]
  have hdrop := (dealAux_drop a ha (qs.take a).flatten 0 _).trans hcdrop
  refine ⟨(dealAux_length ..).trans hclen, hdrop, ?_, ?_⟩
  · -- all items, minus those of the untouched queues
    have := dealAux_perm a ha (qs.take a).flatten 0 _ (hclen ▸ hlen)
    rw [flatten_take_drop a (dealAux ..), hdrop, List.flatten_append, List.flatten_replicate_nil,
      List.nil_append] at this
    exact (List.perm_append_right_iff _).1 (this.trans List.perm_append_comm)
  · intro j hj
    rw [dealAux_sizes a ha (qs.take a).flatten 0 _ (hclen ▸ hlen) ?_ j hj, Nat.zero_add]
    · rfl
    · intro j' hj'
      rw [dealt_zero, List.getElem?_append_left (hrl.symm ▸ hj'), List.getElem?_replicate, if_pos hj']
      rfl

end TB.Exec
