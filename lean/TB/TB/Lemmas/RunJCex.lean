/-
  The world that refutes `C01_bytes` (TB.Props.C01bytes) without its hypothesis `hsame`. `H` is the identity.

  One multi-file torrent lists the same path `x` twice with different lengths (finding D6): file 0 has length 2,
  file 1 has length 1; piece length 1, piece hashes `[1]`, `[2]`, `[3]`. Both table entries have the same export
  image `img`, which exists with content `[5, 6]`. The scan directory holds `s/1 = [3]` (candidate for file 1) and
  `s/2 = [1, 9]` (candidate for file 0). No faults, no resize pass, default order (last piece first):
    * piece 2 (file 1, bytes [0,1)) is found in `s/1`: `set_len 1` truncates the image to `[5]`, the write makes `[3]`;
    * piece 1 (file 0, bytes [1,2)) is not found;
    * piece 0 (file 0, bytes [0,1)) is found in `s/2`: `set_len 2` re-extends the image to `[3, 0]`, the write makes
      `[1, 0]`.
  Byte 1 of the image is now `0`: it was `6`, it lies below the original length `2`, and the correct torrent byte
  there is `2`. `FsWF`, `NoAlias` and `SegsInRange` hold; what fails is that entries with the same export image
  declare the same length.
-/
import TB.Lemmas.RunJ
namespace TB

/-- a member of a list at an index, in the form the bounded checks (`….of_check`) quantify over -/
theorem List.getElem?_getD_range {α : Type} [Inhabited α] {l : List α} {i : Nat} {a : α} (h : l[i]? = some a) :
    i ∈ List.range l.length ∧ l[i]?.getD default = a :=
  ⟨List.mem_range.2 (List.getElem?_eq_some_iff.1 h).1, by rw [h]; rfl⟩

end TB

namespace TB.RunJ.Cex
open TB

def ih : Bytes := [0xAB]
def nm : Bytes := [110]
def x : Bytes := [120]
def eDir : Path := [[101]]
def sDir : Path := [[115]]
def root : Path := eDir ++ [hex ih, sData]
def img : Path := root ++ [nm, x]

def tor : Torrent := ⟨⟨nm, none, some [⟨2, [x]⟩, ⟨1, [x]⟩], 1, [[1], [2], [3]]⟩, ih⟩

def fs0 : Fs :=
  { files := [(img, 0), (sDir ++ [[49]], 1), (sDir ++ [[50]], 2)],
    dirs := [eDir, sDir, eDir ++ [hex ih], root, root ++ [nm]],
    data := [(0, [5, 6]), (1, [3]), (2, [1, 9])],
    next := 3 }

def inp : RunIn :=
  { fs := fs0, torrents := [tor], scan := [⟨true, sDir⟩], exportDir := ⟨true, eDir⟩, resize := false,
    searchObs := [], order := [], faults := [] }

def e0 : TEntry := ⟨0, ih, 0, 2, img, [x], false, some [img, sDir ++ [[50]]]⟩
def e1 : TEntry := ⟨1, ih, 1, 1, img, [x], false, some [sDir ++ [[49]]]⟩
def w0 : Work := ⟨[⟨1, 0, e0⟩], [1]⟩
def w1 : Work := ⟨[⟨1, 1, e0⟩], [2]⟩
def w2 : Work := ⟨[⟨1, 0, e1⟩], [3]⟩

/-- the run, evaluated once: the facts about it that are used below are the components of this one conjunction, because
    the kernel shares the evaluation of `run id inp` inside one declaration only -/
theorem evaluated :
    (run id inp).table = [e0, e1] ∧ (run id inp).work = [w0, w1, w2] ∧
    (run id inp).fs.files = fs0.files ∧
    (run id inp).fs.data = [(0, [1, 0]), (1, [3]), (2, [1, 9])] ∧
    ((run id inp).ops.filter (fun o => o.kind.mutating)).map (·.kind)
      = [.mkdirs, .openc, .setlen 1, .write 0 [3], .mkdirs, .openc, .setlen 2, .write 0 [1]] ∧
    (run id inp).ops.all (·.ok) = true ∧
    (run id inp).fs.inoOf img = some 0 ∧ ((run id inp).fs.content 0)[1]? = some 0 := by decide +kernel

theorem run_table : (run id inp).table = [e0, e1] := evaluated.1
theorem run_work : (run id inp).work = [w0, w1, w2] := evaluated.2.1
theorem run_files : (run id inp).fs.files = fs0.files := evaluated.2.2.1
theorem run_data : (run id inp).fs.data = [(0, [1, 0]), (1, [3]), (2, [1, 9])] := evaluated.2.2.2.1
/-- the three mutations of the image: truncate to 1, (write), re-extend to 2, (write) -/
example : ((run id inp).ops.filter (fun o => o.kind.mutating)).map (·.kind)
    = [.mkdirs, .openc, .setlen 1, .write 0 [3], .mkdirs, .openc, .setlen 2, .write 0 [1]] := evaluated.2.2.2.2.1
example : (run id inp).ops.all (·.ok) = true := evaluated.2.2.2.2.2.1

/-! the other hypotheses of `C01_bytes` hold -/

theorem wf : FsWF inp.fs := by decide +kernel

theorem noAlias : NoAl inp.fs (run id inp).table := by
  rw [run_table]
  exact NoAl.of_check fs0 _ (by decide +kernel)

theorem segsInRange : ∀ w ∈ (run id inp).work, SegsInRange w := by
  rw [run_work]
  decide +kernel

/-! the conclusion fails, and so does `hsame` -/

theorem not_sameLen : ¬ SameLen (run id inp).table := by
  rw [run_table]
  decide +kernel

/-- byte 1 of the image is `0` after the run; it was `6`, the file was long enough, and no piece with a segment over
    byte 1 of the image has a `0` there -/
theorem not_bytesOk : ¬ BOk id (run id inp).work inp.fs (run id inp).fs := by
  intro h
  have h0 : inp.fs.inoOf img = some 0 ∧ (inp.fs.content 0)[1]? = some 6 ∧ ¬ (inp.fs.content 0).length ≤ 1 ∧
      ∀ w ∈ [w0, w1, w2], ∀ j ∈ List.range w.segs.length, ∀ seg ∈ w.segs[j]?, seg.off ≤ 1 → 1 < seg.off + seg.len →
        w.hash[segStart w.segs j + (1 - seg.off)]? ≠ some 0 := by decide +kernel
  rcases h img 0 evaluated.2.2.2.2.2.2.1 1 0 evaluated.2.2.2.2.2.2.2 with
    ⟨i0, h1, h2⟩ | ⟨_, h1⟩ | ⟨w, hw, j, seg, buf, hseg, _, _, hle, hlt, hH, hb⟩
  · rw [h0.1] at h1
    cases h1
    rw [h0.2.1] at h2
    cases h2
  · exact h0.2.2.1 (h1 0 h0.1)
  · rw [run_work] at hw
    cases (show buf = w.hash from hH)
    exact h0.2.2.2 w hw j (List.mem_range.2 (List.getElem?_eq_some_iff.1 hseg).1) seg hseg hle hlt hb

end TB.RunJ.Cex
