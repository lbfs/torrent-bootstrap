/-
  The tree a run leaves is the replay of its log on the initial tree (C11).
-/
import TB.Lemmas.RunARun
namespace TB.RD

theorem Reach.replay_init {fs0 : Fs} {F : List Nat} {st : St} (h : Reach ⟨fs0, [], F⟩ st) :
    st.fs = replayD fs0 st.ops := by
  obtain ⟨_, new, ho, hf⟩ := h
  rw [ho, hf]; rfl

theorem run_replayD (H : Bytes → Bytes) (inp : RunIn) : (run H inp).fs = replayD inp.fs (run H inp).ops := by
  by_cases hne : inp.torrents = []
  · rw [RB.run_nil H inp hne]; rfl
  rcases RB.run_shape H inp hne with ⟨_, ho, hf⟩ | ⟨_, ho, hf⟩ | ⟨_, ho, hf⟩ | ⟨ordered, _, _, _, ho, hf, _⟩ <;>
    rw [ho, hf]
  · exact (runSt1_trace inp).reach.replay_init
  · exact (runSt2_trace inp).reach.replay_init
  · exact (runSt3_trace inp).reach.replay_init
  · exact ((runSt3_trace inp).reach.trans (solveAll_trace H _ ordered _ _).reach).replay_init

end TB.RD
