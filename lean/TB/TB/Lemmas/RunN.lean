/-
  The tree side of the resize pre-flight. What the two opens of the passes answer when no fault is injected, and
  `step`, the effect of the second pass at one entry as a function on trees.
-/
import TB.Spec.ExportSpec
import TB.Lemmas.RunB
import TB.Lemmas.RunF
namespace TB.RunN
open TB.RB

theorem openr_val (st : St) (hf : st.faults = []) (p : Path) :
    (st.openr p).2 = (match st.fs.look p with | .file _ => true | .dir => true | _ => false) := by
  unfold St.openr
  rw [St.op_nofault _ _ _ (by rw [hf]; rfl)]
  rfl

theorem openrw_val (st : St) (hf : st.faults = []) (p : Path) :
    (st.op .openrw p (natOpenrw p)).2 = (match st.fs.look p with | .file _ => true | _ => false) := by
  rw [St.op_nofault _ _ _ (by rw [hf]; rfl)]
  rfl

theorem openrw_fs (st : St) (p : Path) : (st.op .openrw p (natOpenrw p)).1.fs = st.fs := by
  rcases h : st.op .openrw p (natOpenrw p) with ⟨st1, ok⟩
  exact St.op_fs_same h rfl

/-- the tree after the second pass has processed one entry (no fault) -/
def step (fs : Fs) (e : TEntry) : Fs :=
  if e.isPad then fs else
  match fs.look e.fullTarget with
  | .file i => if (fs.content i).length < e.fileLength then fs.setLen i e.fileLength else fs
  | _ => fs

theorem step_frame (fs : Fs) (e : TEntry) :
    (step fs e).files = fs.files ∧ (step fs e).dirs = fs.dirs ∧ (step fs e).next = fs.next := by
  unfold step
  split
  · exact ⟨rfl, rfl, rfl⟩
  · split
    · split <;> exact ⟨rfl, rfl, rfl⟩
    · exact ⟨rfl, rfl, rfl⟩

theorem step_look (fs : Fs) (e : TEntry) (p : Path) : (step fs e).look p = fs.look p :=
  RunF.look_congr (step_frame fs e).1 (step_frame fs e).2.1 p

theorem step_eq_self {fs : Fs} {e : TEntry}
    (h : ¬ (e.isPad = false ∧ ∃ i, fs.look e.fullTarget = .file i ∧ (fs.content i).length < e.fileLength)) :
    step fs e = fs := by
  unfold step
  split
  · rfl
  · rename_i hp
    split
    · rename_i i hl
      exact if_neg fun hlt => h ⟨Bool.eq_false_iff.2 hp, i, hl, hlt⟩
    · rfl

theorem setLen_content_same (fs : Fs) (i n : Nat) (h : (fs.content i).length ≤ n) :
    (fs.setLen i n).content i = fs.content i ++ List.replicate (n - (fs.content i).length) 0 := by
  unfold Fs.setLen
  rw [RD.Fs.content_setData]
  split
  · have : n = (fs.content i).length := by omega
    rw [this]; simp
  · rfl

theorem setLen_content_other (fs : Fs) (i j n : Nat) (h : j ≠ i) :
    (fs.setLen i n).content j = fs.content j :=
  RD.Fs.content_setData_ne _ _ _ _ h

theorem step_content (fs : Fs) (e : TEntry) (j : Nat) :
    ∃ k, (step fs e).content j = fs.content j ++ List.replicate k 0 ∧
      (k ≠ 0 → e.isPad = false ∧ fs.look e.fullTarget = .file j ∧
        (fs.content j).length < e.fileLength ∧ ((step fs e).content j).length = e.fileLength) := by
  have same : ∀ fs' : Fs, fs' = fs → ∃ k, fs'.content j = fs.content j ++ List.replicate k 0 ∧
      (k ≠ 0 → e.isPad = false ∧ fs.look e.fullTarget = .file j ∧
        (fs.content j).length < e.fileLength ∧ (fs'.content j).length = e.fileLength) := by
    rintro _ rfl
    exact ⟨0, (List.append_nil _).symm, fun h => absurd rfl h⟩
  unfold step
  split
  · exact same fs rfl
  · rename_i hp
    split
    · rename_i i hl
      split
      · rename_i hlt
        by_cases hji : j = i
        · subst hji
          have hc := setLen_content_same fs j e.fileLength (Nat.le_of_lt hlt)
          refine ⟨_, hc, fun _ => ⟨Bool.eq_false_iff.2 hp, hl, hlt, ?_⟩⟩
          rw [hc, List.length_append, List.length_replicate]
          omega
        · rw [setLen_content_other _ _ _ _ hji]
          exact same fs rfl
      · exact same fs rfl
    · exact same fs rfl

theorem step_reaches {fs : Fs} {e : TEntry} {i : Nat} (hp : e.isPad = false) (hl : fs.look e.fullTarget = .file i) :
    e.fileLength ≤ ((step fs e).content i).length := by
  unfold step
  rw [hp, if_neg Bool.false_ne_true, hl]
  dsimp only
  split
  · rename_i hlt
    rw [setLen_content_same fs i e.fileLength (Nat.le_of_lt hlt), List.length_append, List.length_replicate]
    omega
  · omega

end TB.RunN
