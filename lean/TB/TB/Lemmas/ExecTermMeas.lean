/-
  How the components of `measure` change in a step (C05, termination). `rank` is split into the flags it reads
  and a table `rankC` over them, so that a step's effect on another worker's rank is a statement about flags
  (`rank_other`); `dec_rank` is the one lemma by which a step that changes only ranks is shown to decrease.
-/
import TB.Lemmas.ExecInv
namespace TB.Exec.Term
theorem sum_range_le {n : Nat} {f g : Nat → Nat} (h : ∀ k, k < n → f k ≤ g k) :
    ((List.range n).map f).sum ≤ ((List.range n).map g).sum := by
  induction n with
  | zero => exact Nat.le_refl _
  | succ n ih =>
    simp only [List.range_succ, List.map_append, List.sum_append, List.map_cons, List.map_nil, List.sum_cons,
      List.sum_nil, Nat.add_zero]
    exact Nat.add_le_add (ih (fun k hk => h k (Nat.lt_succ_of_lt hk))) (h n (Nat.lt_succ_self n))

theorem sum_range_add {n : Nat} {f g : Nat → Nat} :
    ((List.range n).map (fun k => f k + g k)).sum = ((List.range n).map f).sum + ((List.range n).map g).sum := by
  induction n with
  | zero => rfl
  | succ n ih =>
    simp only [List.range_succ, List.map_append, List.sum_append, List.map_cons, List.map_nil, List.sum_cons,
      List.sum_nil, Nat.add_zero, ih]
    exact Nat.add_add_add_comm ..

theorem sum_range_ite {n i c : Nat} :
    ((List.range n).map (fun k => if k = i then c else 0)).sum = if i < n then c else 0 := by
  induction n with
  | zero => rfl
  | succ n ih =>
    simp only [List.range_succ, List.map_append, List.sum_append, List.map_cons, List.map_nil, List.sum_cons,
      List.sum_nil, Nat.add_zero, ih]
    rcases Nat.lt_trichotomy i n with h | h | h
    · rw [if_pos h, if_neg (Nat.ne_of_gt h), if_pos (Nat.lt_succ_of_lt h)]
      rfl
    · rw [if_neg (h ▸ Nat.lt_irrefl i), if_pos h.symm, if_pos (h ▸ Nat.lt_succ_self i), Nat.zero_add]
    · rw [if_neg (Nat.lt_asymm h), if_neg (Nat.ne_of_lt h), if_neg (Nat.not_lt.2 h)]

/-- the sum drops when one summand drops by `a` and at most one other rises by `b < a` -/
theorem sum_range_lt {n i t a b : Nat} {f f' : Nat → Nat} (hi : i < n) (hab : b < a)
    (h : ∀ k, k < n → f' k + (if k = i then a else 0) ≤ f k + (if k = t then b else 0)) :
    ((List.range n).map f').sum < ((List.range n).map f).sum := by
  have h1 := sum_range_le h
  rw [sum_range_add, sum_range_add, sum_range_ite, sum_range_ite, if_pos hi] at h1
  have hb : (if t < n then b else 0) < a := by
    split
    · exact hab
    · exact Nat.zero_lt_of_lt hab
  exact Nat.lt_of_add_lt_add_right (Nat.lt_of_le_of_lt h1 (Nat.add_lt_add_left hb _))

theorem findSome?_set_of_none {α β : Type} (f : α → Option β) {l : List α} {i : Nat} {x y : α}
    (h : l[i]? = some x) (hx : f x = none) (hy : f y = none) : (l.set i y).findSome? f = l.findSome? f := by
  induction l generalizing i with
  | nil => rfl
  | cons a l ih =>
    cases i with
    | zero => cases h; simp only [List.set_cons_zero, List.findSome?_cons, hx, hy]
    | succ i => simp only [List.set_cons_succ, List.findSome?_cons, ih h]

theorem findSome?_of_unique {α β : Type} (f : α → Option β) {l : List α} {i : Nat} {x : α} (h : l[i]? = some x)
    (hu : ∀ k y, k ≠ i → l[k]? = some y → f y = none) : l.findSome? f = f x := by
  induction l generalizing i with
  | nil => cases h
  | cons a l ih =>
    cases i with
    | zero =>
      cases h
      have : l.findSome? f = none := List.findSome?_eq_none_iff.2 fun y hy => by
        obtain ⟨k, hk⟩ := List.getElem?_of_mem hy
        exact hu (k + 1) y (Nat.succ_ne_zero k) hk
      rw [List.findSome?_cons, this]
      split <;> (rename_i h; exact h.symm)
    | succ i =>
      rw [List.findSome?_cons, hu 0 a (Nat.succ_ne_zero i).symm rfl]
      exact ih h (fun k y hk hy => hu (k + 1) y (fun e => hk (Nat.succ.inj e)) hy)

theorem effActive_eq (s : ExSt) : effActive s = s.active - ((s.pcs.findSome? pendingDec).getD 0) := by
  unfold effActive
  induction s.pcs with
  | nil => rfl
  | cons pc l ih => cases pc <;> first | exact ih | rfl

variable {qs0 : List (List Nat)} {s s' : ExSt} {i : Nat} {pc pc' : Pc}

theorem effActive_frame (hpc : s.pcs[i]? = some pc) (hpcs : s'.pcs = s.pcs.set i pc') (hA : s'.active = s.active)
    (h1 : pendingDec pc = none) (h2 : pendingDec pc' = none) : effActive s' = effActive s := by
  rw [effActive_eq, effActive_eq, hpcs, findSome?_set_of_none pendingDec hpc h1 h2, hA]

theorem effActive_of_holder (hI : Inv qs0 s) (hpc : s.pcs[i]? = some pc) (hS : holdsS pc = true) :
    effActive s = s.active - (pendingDec pc).getD 0 := by
  rw [effActive_eq, findSome?_of_unique pendingDec hpc]
  intro k pck hk hpck
  cases hd : pendingDec pck with
  | none => rfl
  | some d => exact absurd (hI.holder_unique hpc hpck hS (holdsS_of_pendingDec hd)) hk

def emptOf (s : ExSt) (k : Nat) : Bool := (s.queues[k]?.getD []).isEmpty
def heldOf (s : ExSt) (k : Nat) : Bool := match s.qlock[k]? with | some (some h) => h != k | _ => false

theorem emptOf_eq_true {k : Nat} (h : s.queues[k]?.getD [] = []) : emptOf s k = true := by
  unfold emptOf; rw [h]; rfl

theorem emptOf_eq_false {k : Nat} (h : s.queues[k]?.getD [] ≠ []) : emptOf s k = false := by
  unfold emptOf
  cases hq : s.queues[k]?.getD [] with
  | nil => exact absurd hq h
  | cons a q => rfl

/-- `rank` as a function of the flags it reads -/
def rankC (empt heldByOther will : Bool) (m n : Nat) (pc : Pc) : Nat :=
  let huge := 9 * (n + 1) + 60
  match pc with
  | .top => (if empt then 14 else if heldByOther then 12 else 5) + (if will then huge else 0)
  | .popped none => 13 + (if will then huge else 0)
  | .popped (some _) => 4 + (if will then huge else 0)
  | .solving _ => 3
  | .wantState => 11 + (if will then huge else 0)
  | .haveState => 10 + (if will then huge else 0)
  | .wantLocal => 9 + (if will then huge else 0)
  | .exiting => 9
  | .haveLocal => 8 + (if will then huge else 0)
  | .cont1 => 7
  | .cont2 => 6
  | .collect j => 8 * (m - j) + 25 + n
  | .bal => 24 + n
  | .release j _ => 17 + (n - j)
  | .dec _ => 16
  | .unlockState => 15
  | .done => 0

theorem rank_eq (s : ExSt) (n k : Nat) (pc : Pc) :
    rank s n k pc = rankC (emptOf s k) (heldOf s k) (decide (k < effActive s) && emptOf s k)
      (others k s.active).length n pc := by
  cases pc with
  | popped item => cases item <;> rfl
  | _ => rfl

theorem rankC_held (e h w : Bool) (m n : Nat) (pc : Pc) :
    rankC e false w m n pc ≤ rankC e h w m n pc ∧ rankC e h w m n pc ≤ rankC e false w m n pc + 7 := by
  cases pc with
  | top =>
    have : (if e then 14 else if false then 12 else 5) ≤ (if e then 14 else if h then 12 else 5) ∧
        (if e then 14 else if h then 12 else 5) ≤ (if e then 14 else if false then 12 else 5) + 7 := by
      cases e <;> cases h <;> decide
    exact ⟨Nat.add_le_add_right this.1 _,
      Nat.le_trans (Nat.add_le_add_right this.2 _) (Nat.le_of_eq (Nat.add_right_comm ..))⟩
  | popped item => cases item <;> exact ⟨Nat.le_refl _, Nat.le_add_right _ _⟩
  | _ => exact ⟨Nat.le_refl _, Nat.le_add_right _ _⟩

theorem rankC_m {e h w : Bool} {m m' n : Nat} {pc : Pc} (hS : holdsS pc = false) :
    rankC e h w m n pc = rankC e h w m' n pc := by
  cases pc with
  | popped item => cases item <;> rfl
  | collect j => cases hS
  | _ => rfl

/-- the rank of a worker `k` other than the one that moves: unchanged flags give an unchanged rank, except that a
    lock newly held by another worker costs at most 7 and a released lock costs nothing -/
theorem rank_other (hI : Inv qs0 s) {k n : Nat} {pck : Pc} (hpc : s.pcs[i]? = some pc)
    (hk : s.pcs[k]? = some pck) (hki : k ≠ i)
    (hQ : s'.queues[k]? = s.queues[k]?) (hE : effActive s' = effActive s)
    (hA : holdsS pc = false → s'.active = s.active) :
    rank s' n k pck ≤ rank s n k pck + 7 ∧
    ((s'.qlock[k]? = s.qlock[k]? ∨ s'.qlock[k]? = some none) → rank s' n k pck ≤ rank s n k pck) := by
  have he : emptOf s' k = emptOf s k := by unfold emptOf; rw [hQ]
  rw [rank_eq, rank_eq, he, hE]
  have hm : rankC (emptOf s k) (heldOf s' k) (decide (k < effActive s) && emptOf s k) (others k s'.active).length n pck
      = rankC (emptOf s k) (heldOf s' k) (decide (k < effActive s) && emptOf s k) (others k s.active).length n pck := by
    cases h2 : holdsS pc with
    | false => rw [hA h2]
    | true =>
      refine rankC_m ?_
      cases h3 : holdsS pck with
      | false => rfl
      | true => exact absurd (hI.holder_unique hpc hk h2 h3) hki
  rw [hm]
  refine ⟨Nat.le_trans (rankC_held ..).2 (Nat.add_le_add_right (rankC_held ..).1 7), fun h => ?_⟩
  have : heldOf s' k = heldOf s k ∨ heldOf s' k = false := by
    unfold heldOf
    exact h.imp (fun h => by rw [h]) (fun h => by rw [h])
  rcases this with h | h <;> rw [h]
  · exact Nat.le_refl _
  · exact (rankC_held ..).1

/-! ### the components of the measure: `measure s` unfolds to `(m1 s, m2 s, m3 s, m4 s)` -/

def m1 (s : ExSt) : Nat := s.queues.flatten.length + (inHand s).length
def m2 (s : ExSt) : Nat := s.queues.flatten.length
def m3 (s : ExSt) : Nat :=
  ((List.range s.pcs.length).filter (fun i => decide (i < effActive s) && (s.queues[i]?.getD []).isEmpty)).length
def m4 (s : ExSt) : Nat :=
  ((List.range s.pcs.length).map (fun i => rank s s.pcs.length i (s.pcs[i]?.getD .done))).sum

theorem m1_add_solved (hI : Inv qs0 s) : m1 s + s.solved.length = qs0.flatten.length := by
  have := hI.cons.length_eq
  simp only [List.length_append] at this
  unfold m1
  omega

/-- Queues, solved items and `effActive` are unchanged (the step is between program counters without a pending
    deactivation, or by the holder of `S` and keeps `active - d`): the measure drops when the moving worker's rank
    drops by `a` while at most one other worker `t` has its queue lock taken, which costs it at most `7 ≤ b < a`. -/
theorem dec_rank (hI : FullInv qs0 s) (hI' : FullInv qs0 s') (hpc : s.pcs[i]? = some pc)
    (hpcs : s'.pcs = s.pcs.set i pc') (hQ : s'.queues = s.queues) (hsv : s'.solved = s.solved)
    (hE : pendingDec pc = none ∧ pendingDec pc' = none ∧ s'.active = s.active ∨
      holdsS pc = true ∧ holdsS pc' = true ∧
        s'.active - (pendingDec pc').getD 0 = s.active - (pendingDec pc).getD 0)
    (t a b : Nat) (hab : b < a)
    (hLk : ∀ k, k ≠ i → (s'.qlock[k]? = s.qlock[k]? ∨ s'.qlock[k]? = some none) ∨ k = t ∧ 7 ≤ b)
    (hi : rankC (emptOf s i) (heldOf s' i) (decide (i < effActive s) && emptOf s i) (others i s'.active).length
        s.pcs.length pc' + a ≤
      rankC (emptOf s i) (heldOf s i) (decide (i < effActive s) && emptOf s i) (others i s.active).length
        s.pcs.length pc) : mlt (measure s') (measure s) := by
  have hin := lt_of_getElem?_eq_some hpc
  have hE' : effActive s' = effActive s := by
    rcases hE with ⟨h1, h2, hA⟩ | ⟨h1, h2, hA⟩
    · exact effActive_frame hpc hpcs hA h1 h2
    · rw [effActive_of_holder hI'.safe (hpcs ▸ List.getElem?_set_self hin) h2,
        effActive_of_holder hI.safe hpc h1, hA]
  have hA : holdsS pc = false → s'.active = s.active := fun hn => by
    rcases hE with ⟨_, _, hA⟩ | ⟨h1, _⟩
    · exact hA
    · rw [hn] at h1; cases h1
  have h1 := m1_add_solved hI.safe
  have h1' := m1_add_solved hI'.safe
  rw [hsv] at h1'
  refine Or.inr ⟨Nat.add_right_cancel (h1'.trans h1.symm),
    Or.inr ⟨congrArg (·.flatten.length) hQ, Or.inr ⟨?_, ?_⟩⟩⟩
  · show m3 s' = m3 s
    unfold m3
    rw [hQ, hE', hpcs, List.length_set]
  · -- Σ ranks: worker `i` pays `a`, worker `t` gets at most `b` back
    show m4 s' < m4 s
    unfold m4
    rw [hpcs, List.length_set]
    refine sum_range_lt (i := i) (t := t) hin hab (fun k hkn => ?_)
    by_cases hki : k = i
    · have he : emptOf s' i = emptOf s i := by unfold emptOf; rw [hQ]
      rw [hki, List.getElem?_set_self hin, hpc, if_pos rfl, Option.getD_some, Option.getD_some, rank_eq, rank_eq,
        he, hE']
      exact Nat.le_trans hi (Nat.le_add_right _ _)
    · rw [List.getElem?_set_ne (Ne.symm hki), if_neg hki]
      obtain ⟨pck, hk⟩ : ∃ pck, s.pcs[k]? = some pck := ⟨_, List.getElem?_eq_getElem hkn⟩
      rw [hk, Option.getD_some]
      have hr := rank_other (n := s.pcs.length) hI.safe hpc hk hki (by rw [hQ]) hE' hA
      rcases hLk k hki with hl | ⟨hkt, h7⟩
      · exact Nat.le_trans (hr.2 hl) (Nat.le_add_right _ _)
      · rw [if_pos hkt]
        exact Nat.le_trans hr.1 (Nat.add_le_add_left h7 _)

/-- the common case of `dec_rank`: the step changes at most queue locks, the state lock and `active`, and takes no
    other worker's queue lock -/
theorem dec_simple (hI : FullInv qs0 s) (hpc : s.pcs[i]? = some pc) {L' : List (Option Nat)} {st' : Option Nat}
    {A' : Nat} (hI' : FullInv qs0 (setPc { s with qlock := L', stateLock := st', active := A' } i pc'))
    (hE : pendingDec pc = none ∧ pendingDec pc' = none ∧ A' = s.active ∨
      holdsS pc = true ∧ holdsS pc' = true ∧ A' - (pendingDec pc').getD 0 = s.active - (pendingDec pc).getD 0)
    (hLk : ∀ k, k ≠ i → L'[k]? = s.qlock[k]? ∨ L'[k]? = some none)
    (hi : rankC (emptOf s i) (heldOf { s with qlock := L' } i) (decide (i < effActive s) && emptOf s i)
        (others i A').length s.pcs.length pc' + 1 ≤
      rankC (emptOf s i) (heldOf s i) (decide (i < effActive s) && emptOf s i) (others i s.active).length
        s.pcs.length pc) :
    mlt (measure (setPc { s with qlock := L', stateLock := st', active := A' } i pc')) (measure s) :=
  dec_rank hI hI' hpc rfl rfl rfl hE i 1 0 Nat.one_pos (fun k hk => .inl (hLk k hk)) hi

/-- the shape of most rank comparisons: a smaller constant, the same large term -/
theorem rank_drop {c c' x : Nat} (h : c' + 1 ≤ c) : c' + x + 1 ≤ c + x :=
  Nat.add_right_comm c' x 1 ▸ Nat.add_le_add_right h x

theorem qlock_set_none_cases (L : List (Option Nat)) (t0 k : Nat) :
    (L.set t0 none)[k]? = L[k]? ∨ (L.set t0 none)[k]? = some none := by
  rw [List.getElem?_set]
  split
  · split
    · exact Or.inr rfl
    · rename_i h1 h2
      exact Or.inl (h1 ▸ (List.getElem?_eq_none (Nat.le_of_not_lt h2)).symm)
  · exact Or.inl rfl

end TB.Exec.Term
