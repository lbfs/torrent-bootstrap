/-
  The step bound of the layout (C09layoutcost).
  `*_fst`: the first component of every step-counting layout function is the original model function.
  `*_cost`: amortised (potential) argument. The file cursor `fi` only moves forward; its potential is 6 for
    every file after it, `6·(files.length - fi - 1)`. An iteration of the inner loop that leaves its file takes 5
    steps and pushes a segment (one more step, in the piece-length sum of the outer loop): paid by the potential,
    except when the file was the last one (the `break`). The iteration that completes a piece inside a file takes
    4 steps, the failing loop test after it 1, its segment 1. A run does one or the other, so for one run of `fill`
    from cursor `fi` to cursor `fi'`: steps + segments + potential of `fi'` ≤ 6 + potential of `fi` (`FillBound`).
    Summing over the outer loop: cost of `multiLoop` from cursor `fi` ≤ 8·|hashes| + 1 + 6·(|files| - fi - 1).
-/
import TB.Spec.LayoutCost
namespace TB.LCostL
open TB TB.LCost

theorem fillC_fst (L : Nat) (files : List Nat) : ∀ (fuel counted fi rem : Nat) (acc : List Seg),
    (fillC L files fuel counted fi rem acc).1 = fill L files fuel counted fi rem acc := by
  intro fuel
  induction fuel with
  | zero => intros; rfl
  | succ fuel ih =>
    intro counted fi rem acc
    simp only [fillC, fill]
    rcases files[fi]? with _ | cl <;> rcases files[fi+1]? with _ | l' <;>
      simp only [apply_ite Prod.fst, ih]

theorem multiLoopC_fst (L : Nat) (files : List Nat) : ∀ (hs : List Bytes) (pos fi rem : Nat),
    (multiLoopC L files hs pos fi rem).1 = multiLoop L files hs pos fi rem := by
  intro hs
  induction hs with
  | nil => intros; rfl
  | cons h hs ih =>
    intro pos fi rem
    simp only [multiLoopC, multiLoop, ← fillC_fst]
    rcases fillC L files (files.length + 2) 0 fi rem [] with ⟨res, n⟩
    rcases res with _ | ⟨segs, fi', rem'⟩
    · rfl
    · simp only [← ih]
      rcases multiLoopC L files hs (pos + 1) fi' rem' with ⟨res2, m⟩
      rcases res2 with _ | ps <;> rfl

theorem constructMultiC_fst (L : Nat) (files : List Nat) (hashes : List Bytes) :
    (constructMultiC L files hashes).1 = constructMulti L files hashes := by
  rcases files with _ | ⟨f0, rest⟩
  · rfl
  · exact multiLoopC_fst L _ hashes 0 0 f0

theorem singleLoopC_fst (L total : Nat) : ∀ (hs : List Bytes) (pos start rem : Nat),
    (singleLoopC L total hs pos start rem).1 = singleLoop L total hs pos start rem := by
  intro hs
  induction hs with
  | nil => intros; rfl
  | cons h hs ih =>
    intro pos start rem
    simp only [singleLoopC, singleLoop, ih]

theorem constructSingleC_fst (L total : Nat) (hashes : List Bytes) :
    (constructSingleC L total hashes).1 = constructSingle L total hashes :=
  singleLoopC_fst L total hashes 0 0 total

theorem constructPiecesC_fst (L : Nat) (length : Option Nat) (files : Option (List Nat)) (hashes : List Bytes) :
    (constructPiecesC L length files hashes).1 = constructPieces L length files hashes := by
  rcases length with _ | total
  · rcases files with _ | fs
    · rfl
    · exact constructMultiC_fst L fs hashes
  · simp only [constructPiecesC, constructPieces, constructSingleC_fst]

/-- the amortised bound for one run `X` of the inner loop started at cursor `fi` with `accLen` segments, `F` files:
    steps taken + segments pushed + potential of the final cursor ≤ 6 + potential of `fi`; after a panic the steps
    alone are bounded -/
def FillBound (F fi accLen : Nat) (X : Option (List Seg × Nat × Nat) × Nat) : Prop :=
  match X.1 with
  | some (segs, fi', _) => X.2 + segs.length + 6 * (F - fi' - 1) ≤ 6 + accLen + 6 * (F - fi - 1)
  | none => X.2 ≤ 6 + 6 * (F - fi - 1)

theorem FillBound_none {F fi accLen n : Nat} (h : n ≤ 6) : FillBound F fi accLen (none, n) :=
  Nat.le_trans h (Nat.le_add_right _ _)

theorem FillBound_adv {F fi accLen : Nat} {r : Option (List Seg × Nat × Nat) × Nat}
    (h : FillBound F (fi + 1) (accLen + 1) r) (hlt : fi + 1 < F) : FillBound F fi accLen (r.1, r.2 + 5) := by
  obtain ⟨_ | ⟨segs, fi', rem'⟩, c⟩ := r <;> simp only [FillBound] at h ⊢ <;> omega

theorem fillC_zero (L : Nat) (files : List Nat) (counted fi rem : Nat) (acc : List Seg) :
    fillC L files 0 counted fi rem acc = (none, 1) := rfl

theorem fillC_done (L : Nat) (files : List Nat) (fuel counted fi rem : Nat) (acc : List Seg)
    (h : ¬ counted < L) : fillC L files (fuel + 1) counted fi rem acc = (some (acc, fi, rem), 1) := by
  simp only [fillC, if_neg h]

theorem fillC_cost (L : Nat) (files : List Nat) : ∀ (fuel counted fi rem : Nat) (acc : List Seg),
    FillBound files.length fi acc.length (fillC L files fuel counted fi rem acc) := by
  intro fuel
  induction fuel with
  | zero => intros; exact FillBound_none (by decide)
  | succ fuel ih =>
    intro counted fi rem acc
    by_cases hc : counted < L
    · simp only [fillC, if_pos hc]
      rcases hget : files[fi]? with _ | cl
      · exact FillBound_none (by decide)
      · have hlt : fi < files.length := (List.getElem?_eq_some_iff.1 hget).1
        simp only []
        by_cases hr : cl < rem
        · rw [if_pos hr]; exact FillBound_none (by decide)
        · rw [if_neg hr]
          by_cases h0 : (if rem ≥ L - counted then rem - (L - counted) else 0) = 0
          · -- the current file is used up
            rw [if_pos h0]
            by_cases hb : fi + 1 = files.length
            · rw [if_pos hb]
              simp only [FillBound, List.length_append, List.length_cons, List.length_nil]
              omega
            · rw [if_neg hb]
              rcases files[fi+1]? with _ | l'
              · exact FillBound_none (by decide)
              · have := ih (if rem ≥ L - counted then L else counted + rem) (fi + 1) l'
                  (acc ++ [⟨fi, cl - rem, rem - if rem ≥ L - counted then rem - (L - counted) else 0, cl⟩])
                rw [List.length_append] at this
                exact FillBound_adv this (by omega)
          · -- the piece is complete: only the failing loop test follows
            have hg : rem ≥ L - counted := Decidable.by_contra fun h => h0 (if_neg h)
            rw [if_neg h0]
            simp only [if_pos hg]
            rcases fuel with _ | fuel
            · rw [fillC_zero]; exact FillBound_none (by decide)
            · rw [fillC_done _ _ _ _ _ _ _ (Nat.lt_irrefl L)]
              simp only [FillBound, List.length_append, List.length_cons, List.length_nil]
              omega
    · rw [fillC_done _ _ _ _ _ _ _ hc]
      simp only [FillBound]
      omega

theorem multiLoopC_cost (L : Nat) (files : List Nat) : ∀ (hs : List Bytes) (pos fi rem : Nat),
    (multiLoopC L files hs pos fi rem).2 ≤ 8 * hs.length + 1 + 6 * (files.length - fi - 1) := by
  intro hs
  induction hs with
  | nil => intro pos fi rem; simp only [multiLoopC, List.length_nil]; omega
  | cons h hs ih =>
    intro pos fi rem
    have hb := fillC_cost L files (files.length + 2) 0 fi rem []
    simp only [multiLoopC, List.length_cons]
    generalize fillC L files (files.length + 2) 0 fi rem [] = X at hb ⊢
    obtain ⟨_ | ⟨segs, fi', rem'⟩, n⟩ := X <;> simp only [FillBound, List.length_nil] at hb ⊢
    · omega
    · have hm := ih (pos + 1) fi' rem'
      generalize multiLoopC L files hs (pos + 1) fi' rem' = Y at hm ⊢
      obtain ⟨_ | ps, m⟩ := Y <;> simp only [] at hm ⊢ <;> omega

theorem constructMultiC_cost (L : Nat) (files : List Nat) (hashes : List Bytes) (hne : files ≠ []) :
    (constructMultiC L files hashes).2 + 4 ≤ 8 * hashes.length + 6 * files.length := by
  rcases files with _ | ⟨f0, rest⟩
  · exact absurd rfl hne
  · have := multiLoopC_cost L (f0 :: rest) hashes 0 0 f0
    simp only [constructMultiC, List.length_cons] at this ⊢
    omega

theorem constructMultiC_nil (L : Nat) (hashes : List Bytes) : constructMultiC L [] hashes = (none, 1) := rfl

theorem singleLoopC_cost (L total : Nat) : ∀ (hs : List Bytes) (pos start rem : Nat),
    (singleLoopC L total hs pos start rem).2 = 4 * hs.length + 1 := by
  intro hs
  induction hs with
  | nil => intros; rfl
  | cons h hs ih =>
    intro pos start rem
    simp only [singleLoopC, ih, List.length_cons]
    omega

end TB.LCostL
