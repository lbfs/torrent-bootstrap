/-
  The log of every stage of a run (validation, resize passes, indexing, reads, writer, one piece, all pieces):
  which operations it consists of (`Ext`) and that the tree is its replay (`RD.Reach`), both at once as `Trace`.
-/
import TB.Lemmas.RunBase
namespace TB

def Ext (P : Op → Prop) (st st' : St) : Prop := ∃ new, st'.ops = st.ops ++ new ∧ ∀ o ∈ new, P o

theorem Ext.refl {P : Op → Prop} (st : St) : Ext P st st := ⟨[], by simp, by simp⟩

theorem Ext.trans {P : Op → Prop} {a b c : St} (h₁ : Ext P a b) (h₂ : Ext P b c) : Ext P a c := by
  obtain ⟨n₁, e₁, p₁⟩ := h₁
  obtain ⟨n₂, e₂, p₂⟩ := h₂
  refine ⟨n₁ ++ n₂, by rw [e₂, e₁, List.append_assoc], ?_⟩
  intro o ho
  rcases List.mem_append.1 ho with h | h
  · exact p₁ o h
  · exact p₂ o h

theorem Ext.mono {P Q : Op → Prop} {a b : St} (h : Ext P a b) (hpq : ∀ o, P o → Q o) : Ext Q a b := by
  obtain ⟨n, e, p⟩ := h
  exact ⟨n, e, fun o ho => hpq o (p o ho)⟩

theorem newOps_of_eq {st st' : St} {new : List Op} (h : st'.ops = st.ops ++ new) : newOps st st' = new := by
  simp [newOps, h]

theorem Ext.newOps {P : Op → Prop} {a b : St} (h : Ext P a b) : ∀ o ∈ newOps a b, P o := by
  obtain ⟨n, e, p⟩ := h
  rw [newOps_of_eq e]; exact p

theorem Ext.mem_ops {P : Op → Prop} {a b : St} (h : Ext P a b) : ∀ o ∈ b.ops, o ∈ a.ops ∨ P o := by
  obtain ⟨n, e, p⟩ := h
  intro o ho
  rw [e] at ho
  rcases List.mem_append.1 ho with h | h
  · exact Or.inl h
  · exact Or.inr (p o h)

theorem Ext.extends {P : Op → Prop} {a b : St} (h : Ext P a b) : ∃ new, b.ops = a.ops ++ new := by
  obtain ⟨n, e, _⟩ := h
  exact ⟨n, e⟩

theorem Ext.of_newOps {P : Op → Prop} {a b : St} (h : ∃ new, b.ops = a.ops ++ new)
    (hp : ∀ o ∈ TB.newOps a b, P o) : Ext P a b := by
  obtain ⟨n, e⟩ := h
  rw [newOps_of_eq e] at hp
  exact ⟨n, e, hp⟩

namespace RD

/-- the effect of a logged operation on the tree, read off the log entry alone (kind, path, outcome); C11 states
    the same function as `applyOp` (`replay_eq_replayD` in TB.Props.C11) -/
def applyOpD (fs : Fs) (o : Op) : Fs :=
  match o.kind with
  | .mkdirs => if o.ok then (fs.mkdirs o.path).1 else fs
  | .openc => if o.ok then (fs.openCreate o.path).1 else fs
  | .setlen n => if o.ok then (match fs.look o.path with | .file i => fs.setLen i n | _ => fs) else fs
  | .write off d => if o.ok then (match fs.look o.path with | .file i => fs.writeAt i off d | _ => fs) else fs
  | _ => fs

def replayD (fs : Fs) (ops : List Op) : Fs := ops.foldl applyOpD fs

theorem applyOpD_failed (fs : Fs) (k : OpKind) (p : Path) : applyOpD fs ⟨k, p, false⟩ = fs := by
  cases k <;> rfl

structure Reach (st st' : St) : Prop where
  faults : st'.faults = st.faults
  ext : ∃ new, st'.ops = st.ops ++ new ∧ st'.fs = replayD st.fs new

theorem Reach.refl (st : St) : Reach st st := ⟨rfl, [], by simp, rfl⟩

theorem Reach.trans {a b c : St} (h1 : Reach a b) (h2 : Reach b c) : Reach a c := by
  obtain ⟨f1, n1, o1, r1⟩ := h1
  obtain ⟨f2, n2, o2, r2⟩ := h2
  refine ⟨f2.trans f1, n1 ++ n2, ?_, ?_⟩
  · rw [o2, o1, List.append_assoc]
  · rw [r2, r1, replayD, replayD, replayD, List.foldl_append]

/-- the natural effect of the operation agrees with `applyOpD` on the current tree -/
def Good (fs : Fs) (k : OpKind) (p : Path) (n : Fs → Fs × Bool) : Prop :=
  applyOpD fs ⟨k, p, (n fs).2⟩ = (n fs).1

theorem Reach.of_op {st st1 : St} {ok : Bool} {k : OpKind} {p : Path} {n : Fs → Fs × Bool}
    (h : st.op k p n = (st1, ok)) (hg : Good st.fs k p n) : Reach st st1 := by
  refine ⟨St.op_faults h, [_], St.op_ops h, ?_⟩
  rcases St.op_fs h with ⟨e, rfl⟩ | ⟨e, rfl⟩
  · rw [e]; exact (applyOpD_failed _ _ _).symm
  · rw [e]; exact hg.symm

theorem Good.mkdirs (fs : Fs) (p : Path) : Good fs .mkdirs p (fun fs => fs.mkdirs p) := by
  unfold Good applyOpD
  simp only
  cases h : (fs.mkdirs p).2
  · simp only [Bool.false_eq_true, if_false]
    unfold Fs.mkdirs at h ⊢
    split at h
    · cases h
    · simp
  · simp

theorem Good.openc (fs : Fs) (p : Path) :
    Good fs .openc p (fun fs => let r := fs.openCreate p; (r.1, r.2.isSome)) := by
  unfold Good applyOpD
  simp only
  cases h : (fs.openCreate p).2.isSome
  · simp only [Bool.false_eq_true, if_false]
    unfold Fs.openCreate at h ⊢
    split <;> (try split) <;> simp_all
  · simp

theorem Good.setlen {fs : Fs} {p : Path} {i : Nat} (n : Nat) (h : fs.look p = .file i) :
    Good fs (.setlen n) p (fun fs => (fs.setLen i n, true)) := by
  unfold Good applyOpD
  simp [h]

theorem Good.write {fs : Fs} {p : Path} {i : Nat} (off : Nat) (d : Bytes) (h : fs.look p = .file i) :
    Good fs (.write off d) p (fun fs => (fs.writeAt i off d, true)) := by
  unfold Good applyOpD
  simp [h]

end RD

structure Trace (P : Op → Prop) (st st' : St) : Prop where
  ext : Ext P st st'
  reach : RD.Reach st st'

theorem Trace.refl {P : Op → Prop} (st : St) : Trace P st st := ⟨Ext.refl st, RD.Reach.refl st⟩

theorem Trace.trans {P : Op → Prop} {a b c : St} (h₁ : Trace P a b) (h₂ : Trace P b c) : Trace P a c :=
  ⟨h₁.ext.trans h₂.ext, h₁.reach.trans h₂.reach⟩

theorem Trace.mono {P Q : Op → Prop} {a b : St} (h : Trace P a b) (hpq : ∀ o, P o → Q o) : Trace Q a b :=
  ⟨h.ext.mono hpq, h.reach⟩

theorem Trace.of_op {P : Op → Prop} {st st1 : St} {ok : Bool} {k : OpKind} {p : Path} {n : Fs → Fs × Bool}
    (h : st.op k p n = (st1, ok)) (hg : RD.Good st.fs k p n) (hp : P ⟨k, p, ok⟩) : Trace P st st1 :=
  ⟨⟨_, St.op_ops h, by simp only [List.mem_singleton]; rintro o rfl; exact hp⟩, RD.Reach.of_op h hg⟩

theorem Trace.of_eq {P : Op → Prop} {α : Type} {st st' : St} {r : St × α} {a : α} (e : r = (st', a))
    (h : Trace P st r.1) : Trace P st st' := by
  rw [e] at h; exact h

def ReadOp (o : Op) : Prop := o.kind = .openr ∨ (∃ n, o.kind = .seek n) ∨ o.kind = .read

theorem readBytes_trace (st : St) (p : Path) (len off : Nat) : Trace ReadOp st (st.readBytes p len off).1 := by
  fun_cases St.readBytes st p len off
  -- the open failed
  case case1 h1 _ => exact Trace.of_op h1 rfl (.inl rfl)
  -- the seek failed; `len = 0`, nothing is read
  case case2 h1 _ _ _ h2 _ | case3 h1 _ _ _ h2 _ _ =>
    exact (Trace.of_op h1 rfl (.inl rfl)).trans (Trace.of_op h2 rfl (.inr (.inl ⟨_, rfl⟩)))
  -- the read failed; it succeeded on a regular file; it succeeded and the path is no regular file
  case case4 h1 _ _ _ h2 _ _ _ _ h3 _ | case5 h1 _ _ _ h2 _ _ _ _ h3 _ _ _ | case6 h1 _ _ _ h2 _ _ _ _ h3 _ _ =>
    exact ((Trace.of_op h1 rfl (.inl rfl)).trans (Trace.of_op h2 rfl (.inr (.inl ⟨_, rfl⟩)))).trans
      (Trace.of_op h3 rfl (.inr (.inr rfl)))

theorem scanSingle_trace (H : Bytes → Bytes) (hash : Bytes) (seg : WSeg) (st : St) (ps : List Path) :
    Trace ReadOp st (scanSingle H hash seg st ps).1 := by
  fun_induction scanSingle H hash seg st ps with
  | case1 => exact Trace.refl _
  -- the read of the first candidate failed; its bytes match
  | case2 st p _ _ h | case3 st p _ _ _ h => exact Trace.of_eq h (readBytes_trace st p seg.len seg.off)
  -- its bytes do not match: on to the next candidate
  | case4 st p _ _ _ h _ ih => exact (Trace.of_eq h (readBytes_trace st p seg.len seg.off)).trans ih

theorem scanSingle_hash {H : Bytes → Bytes} {hash : Bytes} {seg : WSeg} {st st1 : St} {ps : List Path}
    {src : Path} {bytes : Bytes} (h : scanSingle H hash seg st ps = (st1, .ok (some (src, bytes)))) :
    H bytes = hash := by
  fun_induction scanSingle H hash seg st ps with
  | case1 | case2 => cases h
  -- the first candidate's bytes match: `hh` is the test that passed
  | case3 _ _ _ _ _ _ hh => cases h; exact eq_of_beq hh
  | case4 _ _ _ _ _ _ _ ih => exact ih h

theorem preloadSeg_trace (seg : WSeg) (st : St) (ps : List Path) (acc : List (Option Path × Bytes)) :
    Trace ReadOp st (preloadSeg seg st ps acc).1 := by
  fun_induction preloadSeg seg st ps acc with
  | case1 => exact Trace.refl _
  -- the read of the first candidate failed
  | case2 st p _ _ _ h => exact Trace.of_eq h (readBytes_trace st p seg.len seg.off)
  -- its bytes are already among the collected ones; they are new
  | case3 st p _ _ _ _ h _ ih | case4 st p _ _ _ _ h _ ih =>
    exact (Trace.of_eq h (readBytes_trace st p seg.len seg.off)).trans ih

theorem preload_trace (st : St) (segs : List WSeg) : Trace ReadOp st (preload st segs).1 := by
  induction segs generalizing st with
  | nil => exact Trace.refl _
  | cons seg rest ih =>
    cases hpad : seg.ent.isPad
    case true => rw [preload_cons_pad hpad]; exact ih st
    cases hs : seg.ent.searches with
    | none => rw [preload_cons_empty hpad hs]; exact ih st
    | some paths =>
      rw [preload_cons_paths hpad hs]
      have e1 := preloadSeg_trace seg st paths []
      rcases h1 : preloadSeg seg st paths [] with ⟨st1, r | _ | _⟩
      · exact (Trace.of_eq h1 e1).trans (ih st1)
      · exact Trace.of_eq h1 e1
      · exact Trace.of_eq h1 e1

theorem searchProduct_hash {H : Bytes → Bytes} {hash : Bytes} {cands : List (List (Option Path × Bytes))}
    {chosen res : List (Option Path × Bytes)} (h : searchProduct H hash cands chosen = some res) :
    H (res.flatMap (·.2)) = hash := by
  induction cands generalizing chosen with
  | nil =>
    simp only [searchProduct] at h
    split at h
    · rename_i hb
      cases h
      exact eq_of_beq hb
    · cases h
  | cons c rest ih =>
    simp only [searchProduct] at h
    obtain ⟨x, _, hx⟩ := firstM_option_some h
    exact ih hx

/-- an operation the writer issues for segment `seg`, cut from `buf` at cursor `s` -/
def SegOp (seg : WSeg) (buf : Bytes) (s : Nat) (o : Op) : Prop :=
  (o.kind = .mkdirs ∧ o.path = seg.ent.fullTarget.dropLast)
  ∨ (o.kind = .openc ∧ o.path = seg.ent.fullTarget)
  ∨ (o.kind = .setlen seg.ent.fileLength ∧ o.path = seg.ent.fullTarget)
  ∨ (o.kind = .seek seg.off ∧ o.path = seg.ent.fullTarget)
  ∨ (o.kind = .write seg.off ((buf.drop s).take seg.len) ∧ o.path = seg.ent.fullTarget ∧ s + seg.len ≤ buf.length)

/-- an operation the writer issues for the list `pairs`, the cursor starting at `start` -/
def WOp (pairs : List (WSeg × Option Path)) (buf : Bytes) (start : Nat) (o : Op) : Prop :=
  ∃ k seg, (pairs.map (·.1))[k]? = some seg ∧ seg.ent.isPad = false
    ∧ SegOp seg buf (start + segStart (pairs.map (·.1)) k) o

theorem WOp.head {seg : WSeg} {src : Option Path} {rest : List (WSeg × Option Path)} {buf : Bytes} {start : Nat}
    {o : Op} (hp : seg.ent.isPad = false) (h : SegOp seg buf start o) : WOp ((seg, src) :: rest) buf start o :=
  ⟨0, seg, by simp, hp, by simpa [segStart] using h⟩

theorem WOp.tail {seg : WSeg} {src : Option Path} {rest : List (WSeg × Option Path)} {buf : Bytes} {start : Nat}
    {o : Op} (h : WOp rest buf (start + seg.len) o) : WOp ((seg, src) :: rest) buf start o := by
  obtain ⟨k, sg, hk, hp, hs⟩ := h
  refine ⟨k + 1, sg, by simpa using hk, hp, ?_⟩
  have : start + segStart (List.map (·.1) ((seg, src) :: rest)) (k + 1)
      = start + seg.len + segStart (List.map (·.1) rest) k := by
    simp [segStart]; omega
  rw [this]; exact hs

theorem writeOne_trace {st st' : St} {seg : WSeg} {buf : Bytes} {start : Nat} {r : Option Solved}
    (h : WriteOne st seg buf start st' r) : Trace (SegOp seg buf start) st st' := by
  have t1 : ∀ {st1 : St} {ok : Bool}, st.op .mkdirs seg.ent.fullTarget.dropLast (fun fs => fs.mkdirs seg.ent.fullTarget.dropLast)
      = (st1, ok) → Trace (SegOp seg buf start) st st1 :=
    fun h1 => Trace.of_op h1 (RD.Good.mkdirs _ _) (Or.inl ⟨rfl, rfl⟩)
  have t2 : ∀ {st1 st2 : St} {ok : Bool}, st1.op .openc seg.ent.fullTarget
      (fun fs => ((fs.openCreate seg.ent.fullTarget).1, (fs.openCreate seg.ent.fullTarget).2.isSome)) = (st2, ok) →
      Trace (SegOp seg buf start) st1 st2 :=
    fun h2 => Trace.of_op h2 (RD.Good.openc _ _) (Or.inr (Or.inl ⟨rfl, rfl⟩))
  have t3 : ∀ {st2 st3 : St} {i : Nat} {ok : Bool}, st2.fs.look seg.ent.fullTarget = .file i →
      st2.op (.setlen seg.ent.fileLength) seg.ent.fullTarget (fun fs => (fs.setLen i seg.ent.fileLength, true))
        = (st3, ok) → Trace (SegOp seg buf start) st2 st3 ∧ st3.fs.look seg.ent.fullTarget = .file i := by
    intro st2 st3 i ok hl h3
    refine ⟨Trace.of_op h3 (RD.Good.setlen _ hl) (Or.inr (Or.inr (Or.inl ⟨rfl, rfl⟩))), ?_⟩
    rcases St.op_fs h3 with ⟨e, _⟩ | ⟨e, _⟩ <;> rw [e] <;> exact hl
  have t4 : ∀ {st3 st4 : St} {ok : Bool}, st3.op (.seek seg.off) seg.ent.fullTarget (fun fs => (fs, true)) = (st4, ok) →
      Trace (SegOp seg buf start) st3 st4 ∧ st4.fs = st3.fs :=
    fun h4 => ⟨Trace.of_op h4 rfl (Or.inr (Or.inr (Or.inr (Or.inl ⟨rfl, rfl⟩)))), St.op_fs_same h4 rfl⟩
  cases h with
  | mkdirs h1 => exact t1 h1
  | openc h1 h2 => exact (t1 h1).trans (t2 h2)
  | notFile h1 h2 _ => exact (t1 h1).trans (t2 h2)
  | setlen h1 h2 hl h3 => exact ((t1 h1).trans (t2 h2)).trans (t3 hl h3).1
  | seek h1 h2 hl h3 h4 => exact (((t1 h1).trans (t2 h2)).trans (t3 hl h3).1).trans (t4 h4).1
  | short h1 h2 hl h3 h4 _ => exact (((t1 h1).trans (t2 h2)).trans (t3 hl h3).1).trans (t4 h4).1
  | write h1 h2 hl h3 h4 hlen h5 | done h1 h2 hl h3 h4 hlen h5 =>
    refine ((((t1 h1).trans (t2 h2)).trans (t3 hl h3).1).trans (t4 h4).1).trans
      (Trace.of_op h5 (RD.Good.write _ _ ?_) (Or.inr (Or.inr (Or.inr (Or.inr ⟨rfl, rfl, hlen⟩)))))
    rw [(t4 h4).2]; exact (t3 hl h3).2

theorem writeSegs_trace (st : St) (pairs : List (WSeg × Option Path)) (buf : Bytes) (start : Nat) :
    Trace (WOp pairs buf start) st (writeSegs st pairs buf start).1 := by
  induction st, pairs, start using writeSegs_induct buf with
  | nil => exact Trace.refl _
  | skip _ _ _ _ _ _ ih => exact ih.mono (fun _ => WOp.tail)
  | fail _ _ _ _ _ _ hp _ w => exact (writeOne_trace w).mono (fun _ => WOp.head hp)
  | step _ _ _ _ _ _ hp _ w ih =>
    exact ((writeOne_trace w).mono (fun _ => WOp.head hp)).trans (ih.mono (fun _ => WOp.tail))

theorem zip_fst_prefix {α β : Type} (a : List α) (b : List β) : ∃ r, a = (List.zip a b).map (·.1) ++ r := by
  induction a generalizing b with
  | nil => exact ⟨[], by simp⟩
  | cons x xs ih =>
    cases b with
    | nil => exact ⟨x :: xs, by simp⟩
    | cons y ys =>
      obtain ⟨r, hr⟩ := ih ys
      exact ⟨r, by simp only [List.zip_cons_cons, List.map_cons, List.cons_append, ← hr]⟩

theorem prefix_getElem?_segStart {l r : List WSeg} {k : Nat} {x : WSeg} (h : l[k]? = some x) :
    (l ++ r)[k]? = some x ∧ segStart (l ++ r) k = segStart l k := by
  obtain ⟨hk, _⟩ := List.getElem?_eq_some_iff.1 h
  refine ⟨by rw [List.getElem?_append_left hk]; exact h, ?_⟩
  simp only [segStart]
  rw [List.take_append_of_le_length (by omega)]

/-- an operation of the evaluation of piece `w`: a read, or a writer operation for one of its non-padding
    segments with a buffer that hashes to the piece hash -/
def PieceOp (H : Bytes → Bytes) (w : Work) (o : Op) : Prop :=
  ReadOp o ∨ ∃ buf, H buf = w.hash ∧ ∃ k seg, w.segs[k]? = some seg ∧ seg.ent.isPad = false
    ∧ SegOp seg buf (segStart w.segs k) o

/- The cases of `fun_cases solvePiece H st w`, in the order of the branches of the definition, as every walk below
   and in later modules names them:
     case1  a segment without candidates: rejected, `notFound`
     case2 / case3   one padding segment: the zero buffer hashes to the piece hash / does not
     case4  one segment, no candidate list: `panic`
     case5 … case8   one segment: `scanSingle` found `(src, bytes)` (the writer runs) / found nothing / failed / panicked
     case9 … case12  several segments: `preload` and `searchProduct` found `chosen` (the writer runs) / found nothing /
                     `preload` failed / panicked -/
theorem solvePiece_trace (H : Bytes → Bytes) (st : St) (w : Work) :
    Trace (PieceOp H w) st (solvePiece H st w).1 := by
  have scan : ∀ {seg paths st1 r}, scanSingle H w.hash seg st paths = (st1, r) → Trace (PieceOp H w) st st1 :=
    fun h => Trace.of_eq h ((scanSingle_trace H w.hash _ st _).mono fun _ => Or.inl)
  have pre : ∀ {st1 r}, preload st w.segs = (st1, r) → Trace (PieceOp H w) st st1 :=
    fun h => Trace.of_eq h ((preload_trace st w.segs).mono fun _ => Or.inl)
  fun_cases solvePiece H st w
  -- one segment, a candidate matched: the writer runs on it
  case case5 seg hsegs _ _ _ st1 src bytes hscan =>
    refine (scan hscan).trans ((writeSegs_trace st1 [(seg, some src)] bytes 0).mono ?_)
    rintro o ⟨k, sg, hk, hp, hs⟩
    refine Or.inr ⟨bytes, scanSingle_hash hscan, k, sg, by rw [hsegs]; simpa using hk, hp, ?_⟩
    rw [hsegs]; simpa using hs
  -- one segment, the scan ended without a match, in an I/O error, or in a panic
  case case6 hscan | case7 hscan | case8 hscan => exact scan hscan
  -- several segments, a combination matched: the writer runs on it
  case case9 st1 _ chosen hsearch _ hpre =>
    refine (pre hpre).trans ((writeSegs_trace st1 _ _ 0).mono ?_)
    rintro o ⟨k, sg, hk, hp, hs⟩
    obtain ⟨r, hr⟩ := zip_fst_prefix w.segs (chosen.map (·.1))
    obtain ⟨h1, h2⟩ := prefix_getElem?_segStart (r := r) hk
    rw [← hr] at h1 h2
    refine Or.inr ⟨_, searchProduct_hash hsearch, k, sg, h1, hp, ?_⟩
    rw [h2]; simpa using hs
  -- several segments, no combination matched, or the preload ended in an I/O error or a panic
  case case10 hpre | case11 hpre | case12 hpre => exact pre hpre
  -- rejected, a lone padding segment, a lone segment without a candidate list: nothing is logged
  all_goals exact Trace.refl _

theorem ReadOp.not_mutating {o : Op} (h : ReadOp o) : o.kind.mutating = false := by
  rcases h with h | ⟨n, h⟩ | h <;> rw [h] <;> rfl

theorem ReadOp.not_write {o : Op} (h : ReadOp o) (off : Nat) (data : Bytes) : o.kind ≠ .write off data := by
  rcases h with h | ⟨n, h⟩ | h <;> rw [h] <;> simp

theorem SegOp.write {seg : WSeg} {buf : Bytes} {s : Nat} {o : Op} (h : SegOp seg buf s o) {off : Nat}
    {data : Bytes} (hk : o.kind = .write off data) :
    o.path = seg.ent.fullTarget ∧ off = seg.off ∧ data = (buf.drop s).take seg.len ∧ s + seg.len ≤ buf.length := by
  rcases h with ⟨h, _⟩ | ⟨h, _⟩ | ⟨h, _⟩ | ⟨h, _⟩ | ⟨h, hp, hl⟩
  · rw [h] at hk; cases hk
  · rw [h] at hk; cases hk
  · rw [h] at hk; cases hk
  · rw [h] at hk; cases hk
  · rw [h] at hk; cases hk; exact ⟨hp, rfl, rfl, hl⟩

theorem SegOp.confined {seg : WSeg} {buf : Bytes} {s : Nat} {o : Op} (h : SegOp seg buf s o) :
    (if o.kind = .mkdirs then o.path = seg.ent.fullTarget.dropLast else o.path = seg.ent.fullTarget) ∧
      (∀ n, o.kind = .setlen n → n = seg.ent.fileLength) := by
  rcases h with ⟨h, hp⟩ | ⟨h, hp⟩ | ⟨h, hp⟩ | ⟨h, hp⟩ | ⟨h, hp, _⟩ <;> rw [h] <;> simp [hp]

theorem PieceOp.writeSound {H : Bytes → Bytes} {w : Work} {o : Op} (h : PieceOp H w o) : WriteSound H w o := by
  intro off data hk
  rcases h with h | ⟨buf, hb, k, seg, hseg, hp, hs⟩
  · exact absurd hk (h.not_write off data)
  · obtain ⟨h1, h2, h3, h4⟩ := hs.write hk
    exact ⟨k, seg, buf, hseg, hp, h1, h2, hb, h4, h3⟩

theorem PieceOp.gate {H : Bytes → Bytes} {w : Work} {o : Op} (h : PieceOp H w o) (hm : o.kind.mutating = true) :
    ∃ buf, H buf = w.hash := by
  rcases h with h | ⟨buf, hb, _⟩
  · rw [h.not_mutating] at hm; cases hm
  · exact ⟨buf, hb⟩

theorem PieceOp.confined {H : Bytes → Bytes} {w : Work} {o : Op} (h : PieceOp H w o) : MutationConfined w o := by
  intro hm
  rcases h with h | ⟨buf, hb, k, seg, hseg, hp, hs⟩
  · rw [h.not_mutating] at hm; cases hm
  · exact ⟨seg, List.mem_of_getElem? hseg, hp, hs.confined⟩

theorem validatePath_trace (st : St) (a : PathArg) : Trace (fun o => o.kind = .stat) st (validatePath st a).1 := by
  unfold validatePath
  split
  · exact Trace.refl _
  rcases h1 : st.op .stat a.path _ with ⟨st1, ok1⟩
  have e1 : Trace (fun o => o.kind = .stat) st st1 := Trace.of_op h1 rfl rfl
  dsimp only
  split
  · exact e1
  split <;> exact e1

theorem validateAll_trace (st : St) (as : List PathArg) :
    Trace (fun o => o.kind = .stat) st (validateAll st as).1 := by
  induction as generalizing st with
  | nil => exact Trace.refl _
  | cons a as ih =>
    unfold validateAll
    have e1 := validatePath_trace st a
    split
    · rename_i st1 h; exact (Trace.of_eq h e1).trans (ih st1)
    · rename_i st1 h; exact Trace.of_eq h e1

theorem openr_trace (st : St) (p : Path) : Trace (fun o => o.kind = .openr) st (st.openr p).1 := by
  rcases h : st.openr p with ⟨st1, ok⟩
  exact Trace.of_op h rfl rfl

theorem resizePass1_trace (st : St) (es : List TEntry) :
    Trace (fun o => o.kind = .openr) st (resizePass1 st es).1 := by
  fun_induction resizePass1 st es
  case case1 => exact Trace.refl _
  case case2 ih => exact ih
  -- the pass goes on: the image is absent, a file not longer than declared, or a directory
  case case3 h1 _ _ ih | case6 h1 _ _ _ _ ih | case7 h1 _ _ ih =>
    exact (Trace.of_eq h1 (openr_trace _ _)).trans ih
  -- the pass stops: the open failed otherwise, or the file is longer than declared
  case case4 h1 _ _ | case5 h1 _ _ _ _ => exact Trace.of_eq h1 (openr_trace _ _)

/-- an operation of the second resize pass: open for writing / set_len of a non-padding entry of the table -/
def RzOp (table : List TEntry) (o : Op) : Prop :=
  ∃ e ∈ table, e.isPad = false ∧ (o.kind = .openrw ∨ o.kind = .setlen e.fileLength) ∧ o.path = e.fullTarget

theorem RzOp.tail {e : TEntry} {es : List TEntry} {o : Op} (h : RzOp es o) : RzOp (e :: es) o := by
  obtain ⟨e', he', h⟩ := h
  exact ⟨e', List.mem_cons_of_mem _ he', h⟩

theorem resizePass2_trace (st : St) (es : List TEntry) : Trace (RzOp es) st (resizePass2 st es).1 := by
  have o1 : ∀ {st st1 e es ok}, ¬e.isPad = true →
      st.op .openrw e.fullTarget (fun fs => (fs, match fs.look e.fullTarget with | .file _ => true | _ => false))
        = (st1, ok) → Trace (RzOp (e :: es)) st st1 :=
    fun hp h1 => Trace.of_op h1 rfl ⟨_, List.mem_cons_self, Bool.eq_false_iff.2 hp, Or.inl rfl, rfl⟩
  have o2 : ∀ {st st1 st2 e es ok1 ok2 i}, ¬e.isPad = true →
      st.op .openrw e.fullTarget (fun fs => (fs, match fs.look e.fullTarget with | .file _ => true | _ => false))
        = (st1, ok1) → st.fs.look e.fullTarget = .file i →
      st1.op (.setlen e.fileLength) e.fullTarget (fun fs => (fs.setLen i e.fileLength, true)) = (st2, ok2) →
      Trace (RzOp (e :: es)) st st2 :=
    fun hp h1 hl h2 => (o1 hp h1).trans (Trace.of_op h2 (RD.Good.setlen _ (by rw [St.op_fs_same h1 rfl, hl]))
      ⟨_, List.mem_cons_self, Bool.eq_false_iff.2 hp, Or.inr rfl, rfl⟩)
  fun_induction resizePass2 st es
  case case1 => exact Trace.refl _
  case case2 ih => exact ih.mono fun _ => RzOp.tail
  -- only the open is logged and the pass goes on: the image is absent, no regular file, or long enough
  case case3 hp _ _ _ h1 _ _ ih | case8 hp _ _ _ h1 _ _ ih | case7 hp _ _ _ h1 _ _ _ _ ih =>
    exact (o1 hp h1).trans (ih.mono fun _ => RzOp.tail)
  -- the open failed otherwise: the pass stops
  case case4 hp _ _ _ h1 _ _ => exact o1 hp h1
  -- a shorter file: `set_len` succeeds and the pass goes on, or fails and the pass stops
  case case5 hp _ _ _ h1 _ _ hl _ _ h2 ih => exact (o2 hp h1 hl h2).trans (ih.mono fun _ => RzOp.tail)
  case case6 hp _ _ _ h1 _ _ hl _ _ _ h2 _ => exact o2 hp h1 hl h2

def SetupOp (table : List TEntry) (o : Op) : Prop := o.kind = .stat ∨ o.kind = .openr ∨ RzOp table o

theorem fixExportFileLengths_trace (st : St) (table : List TEntry) :
    Trace (SetupOp table) st (fixExportFileLengths st table).1 := by
  unfold fixExportFileLengths
  have e1 : Trace (SetupOp table) st (resizePass1 st table).1 :=
    (resizePass1_trace st table).mono (fun o h => Or.inr (Or.inl h))
  split
  · rename_i st1 h; exact Trace.of_eq h e1
  · rename_i st1 h
    exact (Trace.of_eq h e1).trans ((resizePass2_trace st1 table).mono (fun o h => Or.inr (Or.inr h)))

theorem addExportPaths_trace (st : St) (c : Cache) (es : List TEntry) :
    Trace (fun o => o.kind = .openr) st (addExportPaths st c es).1 := by
  fun_induction addExportPaths st c es
  case case1 => exact Trace.refl _
  case case2 ih => exact ih
  -- every non-padding entry logs one open, whatever comes of it
  case case3 h1 _ ih | case4 h1 _ _ _ _ ih | case5 h1 _ _ _ _ ih | case6 h1 _ _ ih =>
    exact (Trace.of_eq h1 (openr_trace _ _)).trans ih

theorem solveAll_trace (H : Bytes → Bytes) (st : St) (ws : List Work) (c : Counters) (acc : List Counters) :
    Trace (fun o => ∃ w ∈ ws, PieceOp H w o) st (solveAll H st ws c acc).1 := by
  induction ws generalizing st c acc with
  | nil => exact Trace.refl _
  | cons w ws ih =>
    have e1 : Trace (fun o => ∃ w' ∈ w :: ws, PieceOp H w' o) st (solvePiece H st w).1 :=
      (solvePiece_trace H st w).mono (fun o h => ⟨w, List.mem_cons_self, h⟩)
    unfold solveAll
    split
    · rename_i st1 h; exact Trace.of_eq h e1
    · rename_i st1 r _ h
      refine (Trace.of_eq h e1).trans ((ih st1 _ _).mono ?_)
      rintro o ⟨w', hw', h⟩
      exact ⟨w', List.mem_cons_of_mem _ hw', h⟩

end TB
