/-
  What TB.Props.C05 reads off the safety invariant `Inv`: the lock order, the final state, and deadlock freedom
  — the holder of the state lock `S` can move, or it waits for a queue lock whose holder is not inside `S` and
  is about to drop it; with `S` free, nobody waits for a queue lock.
-/
import TB.Lemmas.ExecInv
namespace TB.Exec

variable {bal : Bal} {qs0 : List (List Nat)} {s : ExSt}

theorem Inv.lockorder (hinv : Inv qs0 s) (j holder : Nat) (hj : s.qlock[j]? = some (some holder))
    (hne : holder ≠ j) : s.stateLock = some holder := by
  obtain ⟨pc, hpc, hm⟩ := hinv.qHold j holder hj
  exact (hinv.wrk holder pc hpc).hs (holdsS_of_mayHold_ne hm hne)

theorem allDone_iff : allDone s = true ↔ ∀ (i : Nat) (pc : Pc), s.pcs[i]? = some pc → pc = Pc.done := by
  simp only [allDone, List.all_eq_true, beq_iff_eq]
  constructor
  · intro h i pc hi
    exact h pc (List.mem_of_getElem? hi)
  · intro h pc hpc
    obtain ⟨i, hi⟩ := List.getElem?_of_mem hpc
    exact h i _ hi

theorem Inv.final (hinv : Inv qs0 s) (hd : allDone s = true) :
    List.Perm s.solved qs0.flatten ∧ s.queues.flatten = [] ∧ s.stateLock = none ∧
      ∀ (j h' : Nat), s.qlock[j]? ≠ some (some h') := by
  rw [allDone_iff] at hd
  have hact : s.active = 0 := by
    cases h0 : s.pcs[0]? with
    | none => exact Nat.le_zero.1 (Nat.le_trans hinv.actLe (List.getElem?_eq_none_iff.1 h0))
    | some pc =>
      have hex := (hinv.wrk 0 pc h0).ex
      rw [hd 0 pc h0] at hex
      exact Nat.le_zero.1 (hex rfl)
  have hq : s.queues.flatten = [] :=
    flatten_eq_nil_of_forall _ (fun j => hinv.tail j (hact ▸ Nat.zero_le j))
  have hh : inHand s = [] := by
    rw [inHand_eq, List.flatMap_eq_nil_iff]
    intro a ha
    obtain ⟨i, hi⟩ := List.getElem?_of_mem ha
    rw [hd i a hi]; rfl
  refine ⟨?_, hq, ?_, ?_⟩
  · have := hinv.cons
    rwa [hq, hh, List.append_nil, List.append_nil] at this
  · cases hst : s.stateLock with
    | none => rfl
    | some h =>
      obtain ⟨pc, hpc, hh⟩ := hinv.sHeld h hst
      rw [hd h pc hpc] at hh
      cases hh
  · intro j h' hj
    obtain ⟨pc, hpc, hm⟩ := hinv.qHold j h' hj
    rw [hd h' pc hpc] at hm
    exact hm

/-- a worker that has not finished and does not wait for a held lock can move -/
theorem step_of_not_blocked {i : Nat} {pc : Pc} (hpc : s.pcs[i]? = some pc)
    (h : match pc with
      | .wantState => s.stateLock = none
      | .wantLocal => s.qlock[i]? = some none
      | .collect j => ∀ t, (others i s.active)[j]? = some t → s.qlock[t]? = some none
      | .done => False
      | _ => True) : ∃ i s', step bal s i = some s' := by
  refine ⟨i, Option.isSome_iff_exists.1 ?_⟩
  cases pc with
  | wantState => simp [step, hpc, h]
  | wantLocal => simp [step, hpc, h]
  | collect j =>
    cases ht : (others i s.active)[j]? with
    | none => simp [step, hpc, ht]
    | some t => simp [step, hpc, ht, h t ht]
  | done => exact h.elim
  | top | release _ _ => simp only [step, hpc]; split <;> rfl
  | _ => simp only [step, hpc]; rfl

/-- a worker holding the state lock can move, or it waits for a queue owner that can -/
theorem Inv.progress_of_holdsS (hinv : Inv qs0 s) {h : Nat} {pc : Pc} (hpc : s.pcs[h]? = some pc)
    (hh : holdsS pc = true) : ∃ i s', step bal s i = some s' := by
  cases pc with
  | wantLocal =>
    rcases hinv.qlock_cases (lt_of_getElem?_eq_some hpc) with hq | ⟨x, pcx, _, hpcx, hm⟩
    · exact step_of_not_blocked hpc hq
    · by_cases hx : x = h
      · subst hx
        rw [hpc] at hpcx; cases hpcx
        exact hm.elim
      · exact absurd (hinv.holder_unique hpc hpcx hh (holdsS_of_mayHold_ne hm hx)) hx
  | collect k =>
    cases ht : (others h s.active)[k]? with
    | none => exact step_of_not_blocked hpc (fun t h' => by rw [ht] at h'; cases h')
    | some t =>
      have htm := mem_others.1 (List.mem_of_getElem? ht)
      rcases hinv.qlock_cases (Nat.lt_of_lt_of_le htm.1 hinv.actLe) with hq | ⟨x, pcx, _, hpcx, hm⟩
      · exact step_of_not_blocked hpc (fun t' h' => by rw [ht] at h'; cases h'; exact hq)
      · by_cases hx : x = h
        · subst hx
          rw [hpc] at hpcx; cases hpcx
          rcases hm with hm | hm
          · exact absurd hm htm.2
          · exact absurd hm (not_mem_take_of_nodup (others_nodup _ _) ht)
        · -- another worker holds the lock while `h` holds `S`: it is about to drop it
          cases hhx : holdsS pcx with
          | true => exact absurd (hinv.holder_unique hpc hpcx hh hhx) hx
          | false =>
            refine step_of_not_blocked hpcx ?_
            cases pcx <;> first | trivial | exact hm.elim | cases hhx
  | top | popped _ | solving _ | wantState | done => cases hh
  | _ => exact step_of_not_blocked hpc trivial

theorem Inv.deadlock_free (hinv : Inv qs0 s) (hnd : allDone s = false) :
    ∃ i s', step bal s i = some s' := by
  obtain ⟨pc, hmem, hne⟩ := List.all_eq_false.1 hnd
  obtain ⟨i, hpc⟩ := List.getElem?_of_mem hmem
  cases hst : s.stateLock with
  | some h =>
    obtain ⟨pch, hpch, hhh⟩ := hinv.sHeld h hst
    exact hinv.progress_of_holdsS hpch hhh
  | none =>
    have hn := hinv.none_not_holdsS hst hpc
    refine step_of_not_blocked hpc ?_
    cases pc with
    | wantState => exact hst
    | done => exact hne rfl
    | top | popped _ | solving _ => trivial
    | _ => cases hn

end TB.Exec
