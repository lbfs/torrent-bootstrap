/-
  The invariant of reachable states — the safety invariant `Inv` together with what the termination measure
  needs (`ownOK`) — and the one lemma by which every step is shown to preserve it (`FullInv.step`). `ownOK`
  is not inductive alone: that a holder of `S` finds its own queue and `active` untouched by the steps of the
  others rests on `Inv.holder_unique`.
-/
import TB.Lemmas.ExecBase
namespace TB.Exec.Term

theorem qlock_some_of_beq {s : ExSt} {t : Nat} (h : (s.qlock[t]? == some none) = true) : s.qlock[t]? = some none := by
  simpa using h

end TB.Exec.Term

namespace TB.Exec

/-- what a worker knows at its program counter about its own queue `q` and `active` -/
def ownOK (q : List Nat) (active i : Nat) (pc : Pc) : Prop :=
  match pc with
  | .wantLocal => i < active
  | .haveLocal => i < active
  | .cont1 => q ≠ []
  | .cont2 => q ≠ []
  | .collect _ => i < active ∧ q = []
  | .bal => i < active ∧ q = []
  | .release _ d => q ≠ [] ∨ active - d ≤ i
  | .dec d => q ≠ [] ∨ active - d ≤ i
  | .unlockState => q ≠ [] ∨ active ≤ i
  | _ => True

structure FullInv (qs0 : List (List Nat)) (s : ExSt) : Prop where
  safe : Inv qs0 s
  own : ∀ i pc, s.pcs[i]? = some pc → ownOK (s.queues[i]?.getD []) s.active i pc

theorem ownOK_of_not_holdsS {q : List Nat} {A i : Nat} {pc : Pc} (hn : holdsS pc = false) : ownOK q A i pc := by
  cases pc <;> first | trivial | cases hn

variable {qs0 : List (List Nat)} {s s' : ExSt} {i : Nat} {pc pc' : Pc}

/-- Worker `i` moves from `pc` to `pc'`. The step keeps `S` as it is, takes it when it is free, or drops it, and
    `holdsS` changes accordingly (`hS`); a worker that does not hold `S` leaves `active` and the other workers'
    queues alone and does not fill an empty queue (`hframe`); it takes queue locks only for itself and only those
    `pc'` allows (`hlock`). What is left to show concerns worker `i` alone. -/
theorem FullInv.step (h : FullInv qs0 s) (hpc : s.pcs[i]? = some pc) (hpcs : s'.pcs = s.pcs.set i pc')
    (hQ : s'.queues.length = s.queues.length) (hL : s'.qlock.length = s.qlock.length)
    (hA : s'.active ≤ s.active)
    (hS : holdsS pc' = holdsS pc ∧ s'.stateLock = s.stateLock ∨
      holdsS pc = false ∧ holdsS pc' = true ∧ s.stateLock = none ∧ s'.stateLock = some i ∨
      holdsS pc = true ∧ holdsS pc' = false ∧ s'.stateLock = none)
    (hframe : holdsS pc = false → s'.active = s.active ∧ (∀ k, k ≠ i → s'.queues[k]? = s.queues[k]?) ∧
      ∀ j : Nat, s.queues[j]?.getD [] = [] → s'.queues[j]?.getD [] = [])
    (hcons : (s'.solved ++ ((hand pc').toList ++ s'.queues.flatten)).Perm
      (s.solved ++ ((hand pc).toList ++ s.queues.flatten)))
    (htail : ∀ j, s'.active ≤ j → s'.queues[j]?.getD [] = [])
    (hlock : ∀ j k, s'.qlock[j]? = some (some k) →
      (k = i ∧ mayHold s'.active i pc' j) ∨ (k ≠ i ∧ s.qlock[j]? = some (some k)))
    (hw : (holdsS pc' = true → s'.stateLock = some i) → WInv s'.stateLock s'.active s'.queues i pc')
    (hown : ownOK (s'.queues[i]?.getD []) s'.active i pc') : FullInv qs0 s' := by
  have hin : i < s.pcs.length := lt_of_getElem?_eq_some hpc
  have hself : s'.pcs[i]? = some pc' := by rw [hpcs, List.getElem?_set_self hin]
  have hother : ∀ {k}, k ≠ i → s'.pcs[k]? = s.pcs[k]? := fun hk => by
    rw [hpcs, List.getElem?_set_ne (Ne.symm hk)]
  have hSi := (h.safe.wrk i pc hpc).hs
  -- another worker that holds `S` sees the state lock, `active` and its own queue unchanged
  have hkeep : ∀ k pck, k ≠ i → s.pcs[k]? = some pck → holdsS pck = true →
      s'.stateLock = s.stateLock ∧ s'.active = s.active ∧ s'.queues[k]? = s.queues[k]? ∧
        ∀ j : Nat, s.queues[j]?.getD [] = [] → s'.queues[j]?.getD [] = [] := by
    intro k pck hki hk hh
    have hn : holdsS pc = false := by
      cases hp : holdsS pc with
      | false => rfl
      | true => exact absurd (h.safe.holder_unique hpc hk hp hh) hki
    obtain ⟨ha, hq, hqe⟩ := hframe hn
    rcases hS with ⟨_, hs⟩ | ⟨_, _, hs, _⟩ | ⟨hp, _⟩
    · exact ⟨hs, ha, hq k hki, hqe⟩
    · rw [h.safe.none_not_holdsS hs hk] at hh; cases hh
    · rw [hn] at hp; cases hp
  refine ⟨⟨?_, ?_, ?_, (cons_step hpc hpcs hcons).trans h.safe.cons, ?_, ?_, ?_, htail⟩, ?_⟩
  · rw [hQ, hpcs, List.length_set]; exact h.safe.lenQ
  · rw [hL, hpcs, List.length_set]; exact h.safe.lenL
  · rw [hpcs, List.length_set]; exact Nat.le_trans hA h.safe.actLe
  · intro k hk
    rcases hS with ⟨hc, hs⟩ | ⟨_, hc, _, hs⟩ | ⟨_, _, hs⟩
    · rw [hs] at hk
      obtain ⟨pck, hpck, hh⟩ := h.safe.sHeld k hk
      by_cases hki : k = i
      · subst hki
        rw [hpc] at hpck; cases hpck
        exact ⟨pc', hself, hc.trans hh⟩
      · exact ⟨pck, (hother hki).trans hpck, hh⟩
    · rw [hs] at hk; cases hk
      exact ⟨pc', hself, hc⟩
    · rw [hs] at hk; cases hk
  · intro k pck hk
    by_cases hki : k = i
    · subst hki
      rw [hself] at hk; cases hk
      refine hw (fun hc => ?_)
      rcases hS with ⟨hc', hs⟩ | ⟨_, _, _, hs⟩ | ⟨_, hc', _⟩
      · rw [hs]; exact hSi (hc'.symm.trans hc)
      · exact hs
      · rw [hc] at hc'; cases hc'
    · rw [hother hki] at hk
      cases hh : holdsS pck with
      | false => exact .of_not_holdsS hh (fun he => Nat.le_trans hA ((h.safe.wrk k pck hk).ex he))
      | true =>
        obtain ⟨hs, ha, _, hq⟩ := hkeep k pck hki hk hh
        rw [hs, ha]
        exact (h.safe.wrk k pck hk).mono_q hq
  · intro j k hq
    rcases hlock j k hq with ⟨rfl, hm⟩ | ⟨hki, hq0⟩
    · exact ⟨pc', hself, hm⟩
    · obtain ⟨pck, hpck, hm⟩ := h.safe.qHold j k hq0
      refine ⟨pck, (hother hki).trans hpck, ?_⟩
      cases hh : holdsS pck with
      | false => exact mayHold_of_not_holdsS hh hm
      | true => rw [(hkeep k pck hki hpck hh).2.1]; exact hm
  · intro k pck hk
    by_cases hki : k = i
    · subst hki
      rw [hself] at hk; cases hk
      exact hown
    · rw [hother hki] at hk
      cases hh : holdsS pck with
      | false => exact ownOK_of_not_holdsS hh
      | true =>
        obtain ⟨_, ha, hq, _⟩ := hkeep k pck hki hk hh
        rw [ha, hq]
        exact h.own k pck hk

/-- `hframe` of `FullInv.step` for a step that changes neither `active` nor the queues -/
theorem frame_same (ha : s'.active = s.active) (hq : s'.queues = s.queues) (_ : holdsS pc = false) :
    s'.active = s.active ∧ (∀ k, k ≠ i → s'.queues[k]? = s.queues[k]?) ∧
      ∀ j : Nat, s.queues[j]?.getD [] = [] → s'.queues[j]?.getD [] = [] := by
  rw [ha, hq]
  exact ⟨rfl, fun _ _ => rfl, fun _ => id⟩

/-- `FullInv.step` for a step that changes only queue locks (`L'` = the new list; the same list for a step that
    only moves the program counter) -/
theorem FullInv.step_lock (h : FullInv qs0 s) (hpc : s.pcs[i]? = some pc) (L' : List (Option Nat))
    (hL : L'.length = s.qlock.length) (hS : holdsS pc' = holdsS pc) (hhand : hand pc' = hand pc)
    (hlock : ∀ j k, L'[j]? = some (some k) →
      (k = i ∧ mayHold s.active i pc' j) ∨ (k ≠ i ∧ s.qlock[j]? = some (some k)))
    (hw : (holdsS pc' = true → s.stateLock = some i) → WInv s.stateLock s.active s.queues i pc')
    (hown : ownOK (s.queues[i]?.getD []) s.active i pc') : FullInv qs0 (setPc { s with qlock := L' } i pc') :=
  h.step hpc rfl rfl hL (Nat.le_refl _) (.inl ⟨hS, rfl⟩) (frame_same rfl rfl) (hhand ▸ .refl _) h.safe.tail
    hlock hw hown

/-- `hlock` of `FullInv.step` for a queue lock `j` that was held before the step -/
theorem lock_keep (hinv : Inv qs0 s) (hpc : s.pcs[i]? = some pc) {A' j k : Nat} (hq : s.qlock[j]? = some (some k))
    (himp : mayHold s.active i pc j → mayHold A' i pc' j) :
    (k = i ∧ mayHold A' i pc' j) ∨ (k ≠ i ∧ s.qlock[j]? = some (some k)) := by
  by_cases hk : k = i
  · subst hk
    obtain ⟨pck, hpck, hm⟩ := hinv.qHold j k hq
    rw [hpc] at hpck; cases hpck
    exact Or.inl ⟨rfl, himp hm⟩
  · exact Or.inr ⟨hk, hq⟩

/-- `hlock` of `FullInv.step` for a worker that holds no queue lock and takes none -/
theorem lock_none (hinv : Inv qs0 s) (hpc : s.pcs[i]? = some pc) {A' : Nat} (hm : ∀ j, ¬ mayHold s.active i pc j) :
    ∀ j k, s.qlock[j]? = some (some k) →
      (k = i ∧ mayHold A' i pc' j) ∨ (k ≠ i ∧ s.qlock[j]? = some (some k)) :=
  fun j _ hq => lock_keep hinv hpc hq (fun h => (hm j h).elim)

/-- `hlock` of `FullInv.step` when queue lock `t` is set to `v` -/
theorem lock_set (hinv : Inv qs0 s) (hpc : s.pcs[i]? = some pc) {A' : Nat} (t : Nat) (v : Option Nat)
    (himp : ∀ j, j ≠ t → mayHold s.active i pc j → mayHold A' i pc' j)
    (hv : ∀ k, v = some k → k = i ∧ mayHold A' i pc' t) :
    ∀ j k, (s.qlock.set t v)[j]? = some (some k) →
      (k = i ∧ mayHold A' i pc' j) ∨ (k ≠ i ∧ s.qlock[j]? = some (some k)) := by
  intro j k hq
  by_cases hj : j = t
  · subst hj
    rw [List.getElem?_set_self (by simpa using lt_of_getElem?_eq_some hq)] at hq
    exact Or.inl (hv k (Option.some.inj hq))
  · rw [List.getElem?_set_ne (Ne.symm hj)] at hq
    exact lock_keep hinv hpc hq (himp j hj)

/-- `FullInv.step` for a step that drops `S`: the worker holds no queue lock -/
theorem FullInv.step_dropS (h : FullInv qs0 s) (hpc : s.pcs[i]? = some pc) (hS : holdsS pc = true)
    (hS' : holdsS pc' = false) (hhand : hand pc' = hand pc) (hm : ∀ j, ¬ mayHold s.active i pc j)
    (hex : exited pc' = true → s.active ≤ i) : FullInv qs0 (setPc { s with stateLock := none } i pc') :=
  h.step hpc rfl rfl rfl (Nat.le_refl _) (.inr (.inr ⟨hS, hS', rfl⟩)) (fun hn => by rw [hS] at hn; cases hn)
    (hhand ▸ .refl _) h.safe.tail (lock_none h.safe hpc hm)
    (fun _ => .of_not_holdsS hS' hex)
    (ownOK_of_not_holdsS hS')

end TB.Exec
