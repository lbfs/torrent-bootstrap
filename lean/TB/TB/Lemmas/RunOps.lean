/-
  TB.Lemmas.RunOps — the critical section of the writer at the granularity of single file operations.

  `RunX` treats a critical section (`Fs.crit`) as one atomic step. Here a worker is a small machine that performs
  ONE file operation per step (`Thr.step`), and a schedule interleaves the workers arbitrarily (`runSched`).
  The invariant `Inv` ties every reachable op-level state to the starting tree; two states in which every
  worker is `.done` have the same observable part (`view`).
-/
import TB.Lemmas.RunX
namespace TB

/-- where a worker is inside its critical section; the handle (inode) is fixed when the file is opened -/
inductive SecPc where
  | mk | opn | setLen (i : Nat) | write (i : Nat) | done | failed
deriving Repr, DecidableEq

structure Thr where
  sec : Sec
  pc : SecPc
deriving Repr, DecidableEq

def Thr.step (fs : Fs) (th : Thr) : Fs × Thr :=
  match th.pc with
  | .mk =>
    let r := fs.mkdirs th.sec.t.dropLast
    if r.2 then (r.1, { th with pc := .opn }) else (r.1, { th with pc := .failed })
  | .opn =>
    let r := fs.openCreate th.sec.t
    if r.2.isSome then
      (match r.1.look th.sec.t with
       | .file i => (r.1, { th with pc := .setLen i })
       | _ => (r.1, { th with pc := .failed }))
    else (r.1, { th with pc := .failed })
  | .setLen i => (fs.setLen i th.sec.L, { th with pc := .write i })
  | .write i => (fs.writeAt i th.sec.off th.sec.d, { th with pc := .done })
  | .done => (fs, th)
  | .failed => (fs, th)

/-- a schedule is a list of worker indices; an index out of range is a no-op -/
def runSched (fs : Fs) (ths : List Thr) : List Nat → Fs × List Thr
  | [] => (fs, ths)
  | k :: rest =>
    match ths[k]? with
    | some th => runSched (th.step fs).1 (ths.set k (th.step fs).2) rest
    | none => runSched fs ths rest

def initThrs (secs : List Sec) : List Thr := secs.map (fun s => ⟨s, .mk⟩)

theorem Thr.step_mk (fs : Fs) (s : Sec) : Thr.step fs ⟨s, .mk⟩ =
    ((fs.mkdirs s.t.dropLast).1, ⟨s, if (fs.mkdirs s.t.dropLast).2 then .opn else .failed⟩) := by
  simp only [Thr.step]
  cases (fs.mkdirs s.t.dropLast).2 <;> rfl

theorem Thr.step_opn (fs : Fs) (s : Sec) : Thr.step fs ⟨s, .opn⟩ =
    ((fs.openCreate s.t).1, ⟨s, match (fs.openCreate s.t).2, (fs.openCreate s.t).1.look s.t with
      | some _, .file i => .setLen i
      | _, _ => .failed⟩) := by
  simp only [Thr.step]
  cases (fs.openCreate s.t).2 <;> cases (fs.openCreate s.t).1.look s.t <;> rfl

theorem Thr.step_setLen (fs : Fs) (s : Sec) (i : Nat) :
    Thr.step fs ⟨s, .setLen i⟩ = (fs.setLen i s.L, ⟨s, .write i⟩) := rfl

theorem Thr.step_write (fs : Fs) (s : Sec) (i : Nat) :
    Thr.step fs ⟨s, .write i⟩ = (fs.writeAt i s.off s.d, ⟨s, .done⟩) := rfl

theorem Thr.step_done (fs : Fs) (s : Sec) : Thr.step fs ⟨s, .done⟩ = (fs, ⟨s, .done⟩) := rfl

theorem Thr.step_failed (fs : Fs) (s : Sec) : Thr.step fs ⟨s, .failed⟩ = (fs, ⟨s, .failed⟩) := rfl

theorem runSched_at {fs fs' : Fs} {th th' : Thr} (h : th.step fs = (fs', th')) (pre post : List Thr)
    (rest : List Nat) :
    runSched fs (pre ++ th :: post) (pre.length :: rest) = runSched fs' (pre ++ th' :: post) rest := by
  have e : (pre ++ th :: post)[pre.length]? = some th := by simp
  simp only [runSched, e, h, List.set_append_right, Nat.sub_self, List.set_cons_zero, Nat.le_refl]

theorem runSched_stuck {fs : Fs} {th : Thr} (h : th.step fs = (fs, th)) (pre post : List Thr) (n : Nat) :
    runSched fs (pre ++ th :: post) (List.replicate n pre.length) = (fs, pre ++ th :: post) := by
  induction n with
  | zero => rfl
  | succ n ih => rw [List.replicate_succ, runSched_at h, ih]

theorem runSched_append (a b : List Nat) : ∀ (fs : Fs) (ths : List Thr),
    runSched fs ths (a ++ b) = runSched (runSched fs ths a).1 (runSched fs ths a).2 b := by
  induction a with
  | nil => intro fs ths; rfl
  | cons k a ih =>
    intro fs ths
    simp only [List.cons_append, runSched]
    cases ths[k]? with
    | none => exact ih _ _
    | some th => exact ih _ _

end TB
namespace TB.RunOps
open TB TB.RunX

/-- ONE worker, four steps from `.mk` with nobody in between: exactly the atomic critical section.
    The case analysis is the one `Fs.crit` makes; each failing branch leaves the worker `.failed`. -/
theorem crit_iff_run (fs : Fs) (s : Sec) (r : Fs) (pre post : List Thr) :
    fs.crit s.t s.L s.off s.d = some r ↔
      runSched fs (pre ++ ⟨s, .mk⟩ :: post) (List.replicate 4 pre.length) = (r, pre ++ ⟨s, .done⟩ :: post) := by
  rw [List.replicate_succ, runSched_at (Thr.step_mk fs s)]
  simp only [Fs.crit]
  cases fs.mkdirs s.t.dropLast with | mk fs1 b1 =>
  cases b1 <;> simp only [Bool.not_false, Bool.not_true, Bool.false_eq_true, ↓reduceIte]
  · rw [runSched_stuck (Thr.step_failed fs1 s)]
    simp
  · rw [List.replicate_succ, runSched_at (Thr.step_opn fs1 s)]
    cases fs1.openCreate s.t with | mk fs2 o2 =>
    cases o2 <;> simp only [Option.isSome_none, Option.isSome_some, Bool.not_false, Bool.not_true, Bool.false_eq_true,
      ↓reduceIte]
    · rw [runSched_stuck (Thr.step_failed fs2 s)]
      simp
    · cases fs2.look s.t
      case file i =>
        rw [List.replicate_succ, runSched_at (Thr.step_setLen fs2 s i), List.replicate_succ,
          runSched_at (Thr.step_write _ s i)]
        simp [runSched]
      all_goals
        rw [runSched_stuck (Thr.step_failed fs2 s)]
        simp

theorem pw_sym {α : Type} {R : α → α → Prop} (hs : ∀ a b, R a b → R b a) {l : List α} (h : l.Pairwise R) :
    ∀ a ∈ l, ∀ b ∈ l, a ≠ b → R a b := by
  induction h with
  | nil => intro a ha; cases ha
  | cons hx _ ih =>
    intro a ha b hb hne
    rcases List.mem_cons.1 ha with ea | ha <;> rcases List.mem_cons.1 hb with eb | hb
    · exact absurd (ea.trans eb.symm) hne
    · rw [ea]; exact hx b hb
    · rw [eb]; exact hs _ _ (hx a ha)
    · exact ih a ha b hb hne

theorem vrun_ok {l : List Sec} : ∀ {v v' : View}, VInv v → vrun v l = some v' →
    (∀ s ∈ l, vok v s = true) ∧ l.Pairwise (fun a b => a.t ∉ mk b.t ∧ b.t ∉ mk a.t) := by
  induction l with
  | nil => intro v v' _ _; exact ⟨fun _ h => (nomatch h), List.Pairwise.nil⟩
  | cons s l ih =>
    intro v v' hv h
    simp only [vrun, vcrit_eq] at h
    by_cases hs : vok v s = true
    · rw [if_pos hs, Option.bind_some] at h
      obtain ⟨h1, h2⟩ := ih (vinv_step hv s) h
      have key : ∀ b ∈ l, vok v b = true ∧ s.t ∉ mk b.t ∧ b.t ∉ mk s.t := by
        intro b hb
        have := h1 b hb
        rw [vok_step hv s b] at this
        simpa [Bool.and_eq_true, and_assoc] using this
      refine ⟨?_, List.pairwise_cons.2 ⟨fun b hb => (key b hb).2, h2⟩⟩
      intro x hx
      rcases List.mem_cons.1 hx with e | hx
      · rw [e]; exact hs
      · exact (key x hx).1
    · rw [if_neg hs] at h; cases h

/-- the facts about the starting tree and the sections that the op-level argument uses -/
structure Hyp (fs0 : Fs) (secs : List Sec) : Prop where
  wf0 : FsWF fs0
  distinct : secs.Pairwise (fun a b => a.t ≠ b.t)
  ok : ∀ s ∈ secs, CritOk fs0 s.t
  nomk : ∀ a ∈ secs, ∀ b ∈ secs, a.t ∉ mk b.t
  noalias : ∀ a ∈ secs, ∀ b ∈ secs, a.t ≠ b.t → ∀ i j, fs0.inoOf a.t = some i → fs0.inoOf b.t = some j → i ≠ j

theorem hyp_of_seq {fs : Fs} {secs : List Sec} {r : Fs} (hwf : FsWF fs)
    (hd : secs.Pairwise (fun a b => a.t ≠ b.t)) (hc : secs.Pairwise (SecComp fs))
    (hr : fs.crits secs = some r) : Hyp fs secs := by
  have hv : vrun (view fs) secs = some (view r) := by
    rw [← (crits_view hwf secs).1, hr]; rfl
  obtain ⟨h1, h2⟩ := vrun_ok (vinv_view fs) hv
  have hok : ∀ s ∈ secs, CritOk fs s.t := fun s hs => (vok_view fs s).1 (h1 s hs)
  refine ⟨hwf, hd, hok, ?_, ?_⟩
  · intro a ha b hb
    by_cases e : a = b
    · subst e
      intro hm
      have h3 := (hok a ha).2
      rw [List.contains_iff_mem.2 hm, Bool.or_true] at h3
      cases h3
    · exact (pw_sym (fun _ _ h => ⟨h.2, h.1⟩) h2 a ha b hb e).1
  · intro a ha b hb hne
    exact pw_sym (R := fun a b => a.t ≠ b.t → ∀ i j, fs.inoOf a.t = some i → fs.inoOf b.t = some j → i ≠ j)
      (fun _ _ h e i j hi hj => (h e.symm j i hj hi).symm) (hc.imp SecComp.diff) a ha b hb (fun e => hne (e ▸ rfl)) hne

/-- the bytes behind the target at the start (`[]` when the target is new) -/
def c0 (fs0 : Fs) (t : Path) : Bytes := ((fs0.inoOf t).map fs0.content).getD []

def opened : SecPc → Bool
  | .setLen _ | .write _ | .done => true
  | _ => false

/-- the handle the worker holds is the inode `i` -/
def handleOk (pc : SecPc) (i : Nat) : Prop :=
  match pc with
  | .setLen j | .write j => j = i
  | _ => True

/-- what the worker has done so far to the bytes of its file -/
def expd (th : Thr) (c : Bytes) : Bytes :=
  match th.pc with
  | .write _ => sl th.sec.L c
  | .done => upd th.sec.L th.sec.off th.sec.d c
  | _ => c

structure Inv (fs0 : Fs) (secs : List Sec) (fs : Fs) (ths : List Thr) : Prop where
  secs : ths.map Thr.sec = secs
  wf : FsWF fs
  next : fs0.next ≤ fs.next
  nofail : ∀ th ∈ ths, th.pc ≠ .failed
  dir : ∀ p, fs.isDir p = true ↔ (fs0.isDir p = true ∨ ∃ th ∈ ths, th.pc ≠ .mk ∧ p ∈ mk th.sec.t)
  keep : ∀ p, (∀ th ∈ ths, th.sec.t = p → opened th.pc = false) → fs.inoOf p = fs0.inoOf p
  opnd : ∀ th ∈ ths, opened th.pc = true → ∃ i, fs.inoOf th.sec.t = some i ∧ handleOk th.pc i ∧
    (fs0.inoOf th.sec.t = some i ∨ (fs0.inoOf th.sec.t = none ∧ fs0.next ≤ i)) ∧
    fs.content i = expd th (c0 fs0 th.sec.t)
  other : ∀ j, j < fs0.next → (∀ th ∈ ths, opened th.pc = true → fs.inoOf th.sec.t ≠ some j) →
    fs.content j = fs0.content j
  fresh : ∀ p q i, fs.inoOf p = some i → fs.inoOf q = some i → fs0.next ≤ i → p = q

variable {fs0 fs fs' : Fs} {secs : List Sec} {ths ths' : List Thr} {th : Thr} {s : Sec} {pc pc' : SecPc}

theorem initThrs_pc : ∀ th ∈ initThrs secs, th.pc = .mk := by
  intro th hth
  obtain ⟨s, _, rfl⟩ := List.mem_map.1 hth
  rfl

theorem inv_init (H : Hyp fs0 secs) : Inv fs0 secs fs0 (initThrs secs) := by
  have hpc := initThrs_pc (secs := secs)
  refine ⟨?_, H.wf0, Nat.le_refl _, ?_, ?_, fun _ _ => rfl, ?_, fun _ _ _ => rfl, ?_⟩
  · simp [initThrs, Function.comp_def]
  · intro th hth h; rw [hpc th hth] at h; cases h
  · intro p
    constructor
    · exact Or.inl
    · rintro (h | ⟨th, hth, h, _⟩)
      · exact h
      · exact absurd (hpc th hth) h
  · intro th hth h; rw [hpc th hth] at h; cases h
  · intro p q i hp _ hi
    have := RunF.inoOf_lt H.wf0 hp
    omega

theorem thr_unique (hd : secs.Pairwise (fun a b => a.t ≠ b.t)) (hs : ths.map Thr.sec = secs) :
    ∀ x ∈ ths, ∀ y ∈ ths, x.sec.t = y.sec.t → x = y := by
  intro x hx y hy e
  apply Classical.byContradiction
  intro hne
  rw [← hs, List.pairwise_map] at hd
  exact pw_sym (fun _ _ h => Ne.symm h) hd x hx y hy hne e

theorem Inv.sec_mem (I : Inv fs0 secs fs ths) (hth : th ∈ ths) : th.sec ∈ secs := by
  rw [← I.secs]; exact List.mem_map_of_mem hth

theorem Inv.free (H : Hyp fs0 secs) (I : Inv fs0 secs fs ths) (hth : th ∈ ths) :
    ∀ q ∈ RunX.mk th.sec.t, fs.inoOf q = none := by
  intro q hq
  rw [I.keep q]
  · exact (H.ok _ (I.sec_mem hth)).1 q hq
  · intro x hx e
    exact absurd (e ▸ hq) (H.nomk _ (I.sec_mem hx) _ (I.sec_mem hth))

theorem Inv.notDir (H : Hyp fs0 secs) (I : Inv fs0 secs fs ths) (hth : th ∈ ths) : fs.isDir th.sec.t = false := by
  cases h : fs.isDir th.sec.t with
  | false => rfl
  | true =>
    exfalso
    rcases (I.dir _).1 h with h0 | ⟨x, hx, _, hm⟩
    · have := (H.ok _ (I.sec_mem hth)).2
      rw [h0] at this; cases this
    · exact H.nomk _ (I.sec_mem hth) _ (I.sec_mem hx) hm

theorem Inv.inj (H : Hyp fs0 secs) (I : Inv fs0 secs fs ths) {x y : Thr}
    (hx : x ∈ ths) (hy : y ∈ ths) (ox : opened x.pc = true) (oy : opened y.pc = true) {i : Nat}
    (hi : fs.inoOf x.sec.t = some i) (hj : fs.inoOf y.sec.t = some i) : x = y := by
  apply thr_unique H.distinct I.secs x hx y hy
  obtain ⟨i1, a1, _, a3, _⟩ := I.opnd x hx ox
  obtain ⟨i2, b1, _, b3, _⟩ := I.opnd y hy oy
  rw [hi] at a1; cases a1
  rw [hj] at b1; cases b1
  rcases a3 with a3 | ⟨a3, a4⟩ <;> rcases b3 with b3 | ⟨b3, b4⟩
  · apply Classical.byContradiction
    intro hne
    exact H.noalias _ (I.sec_mem hx) _ (I.sec_mem hy) hne i i a3 b3 rfl
  · have := RunF.inoOf_lt H.wf0 a3; omega
  · have := RunF.inoOf_lt H.wf0 b3; omega
  · exact I.fresh _ _ i hi hj a4

/-- the situation of one step: the worker of section `s` goes from `pc` to `pc'`, which turns `ths` into `ths'` -/
structure Repl (secs : List Sec) (ths : List Thr) (s : Sec) (pc pc' : SecPc) (ths' : List Thr) : Prop where
  hth : ⟨s, pc⟩ ∈ ths
  hsecs : ths'.map Thr.sec = secs
  hmem : ∀ x, x ∈ ths' ↔ x = ⟨s, pc'⟩ ∨ (x ∈ ths ∧ x.sec.t ≠ s.t)

theorem repl_set (hd : secs.Pairwise (fun a b => a.t ≠ b.t)) (hs : ths.map Thr.sec = secs) {k : Nat}
    (hk : ths[k]? = some ⟨s, pc⟩) (pc' : SecPc) :
    Repl secs ths s pc pc' (ths.set k ⟨s, pc'⟩) := by
  obtain ⟨hlt, hth⟩ := List.getElem?_eq_some_iff.1 hk
  obtain ⟨pre, post, e, -, e'⟩ := List.exists_of_set (a' := (⟨s, pc'⟩ : Thr)) hlt
  rw [hth] at e
  rw [e']
  subst e hs
  rw [List.pairwise_map, List.pairwise_append, List.pairwise_cons] at hd
  obtain ⟨-, ⟨hpost, -⟩, hpre⟩ := hd
  have hne : ∀ x, x ∈ pre ∨ x ∈ post → x.sec.t ≠ s.t := by
    rintro x (h | h)
    · exact hpre x h _ List.mem_cons_self
    · exact Ne.symm (hpost x h)
  refine ⟨by simp, by simp, fun x => ?_⟩
  simp only [List.mem_append, List.mem_cons]
  constructor
  · rintro (h | rfl | h)
    · exact Or.inr ⟨Or.inl h, hne x (Or.inl h)⟩
    · exact Or.inl rfl
    · exact Or.inr ⟨Or.inr (Or.inr h), hne x (Or.inr h)⟩
  · rintro (rfl | ⟨h | rfl | h, e⟩)
    · exact Or.inr (Or.inl rfl)
    · exact Or.inl h
    · exact absurd rfl e
    · exact Or.inr (Or.inr h)

theorem Repl.old_cases (H : Hyp fs0 secs) (I : Inv fs0 secs fs ths) (R : Repl secs ths s pc pc' ths') :
    ∀ x ∈ ths, x = ⟨s, pc⟩ ∨ (x ∈ ths' ∧ x.sec.t ≠ s.t) := by
  intro x hx
  by_cases e : x.sec.t = s.t
  · exact Or.inl (thr_unique H.distinct I.secs x hx _ R.hth e)
  · exact Or.inr ⟨(R.hmem x).2 (Or.inr ⟨hx, e⟩), e⟩

theorem Repl.moved_mem (R : Repl secs ths s pc pc' ths') : ⟨s, pc'⟩ ∈ ths' := (R.hmem _).2 (Or.inl rfl)

/-- `hdir` of `Inv.step` for a step other than `create_dir_all` -/
theorem dir_same {P Q : Prop} (h : pc ≠ .mk) : P ↔ P ∨ pc = .mk ∧ Q :=
  ⟨Or.inl, fun h' => h'.elim id (fun h' => absurd h'.1 h)⟩

/-- The shape every step has. Directories appear only with `create_dir_all`; a binding changes only when a worker
    opens a new target, which gets the next inode; bytes change only behind the worker's own handle; what the
    worker holds afterwards (`hself`) is the one thing each kind of step has to establish for itself. -/
theorem Inv.step (H : Hyp fs0 secs) (I : Inv fs0 secs fs ths) (R : Repl secs ths s pc pc' ths')
    (hwf : FsWF fs') (hnext : fs.next ≤ fs'.next) (hpc' : pc' = .opn ∨ opened pc' = true)
    (hop : opened pc = true → opened pc' = true)
    (hdir : ∀ p, fs'.isDir p = true ↔ fs.isDir p = true ∨ pc = .mk ∧ p ∈ RunX.mk s.t)
    (hino : ∀ p, fs'.inoOf p = fs.inoOf p ∨
      p = s.t ∧ opened pc = false ∧ opened pc' = true ∧ fs.inoOf p = none ∧ fs'.inoOf p = some fs.next)
    (hcon : ∀ j, j < fs.next → (opened pc = true → fs.inoOf s.t ≠ some j) → fs'.content j = fs.content j)
    (hself : opened pc' = true →
      ∃ i, fs'.inoOf s.t = some i ∧ handleOk pc' i ∧ fs'.content i = expd ⟨s, pc'⟩ (c0 fs0 s.t)) :
    Inv fs0 secs fs' ths' := by
  have ⟨hnf, hmk⟩ : pc' ≠ .failed ∧ pc' ≠ .mk := by
    rcases hpc' with rfl | h
    · exact ⟨nofun, nofun⟩
    · constructor <;> (rintro rfl; cases h)
  have hino' : ∀ p, p ≠ s.t → fs'.inoOf p = fs.inoOf p := fun p hp => (hino p).resolve_right (fun h => hp h.1)
  have hinoT : opened pc = true → fs'.inoOf s.t = fs.inoOf s.t := fun ho =>
    (hino _).resolve_right (fun h => by rw [ho] at h; cases h.2.1)
  refine ⟨R.hsecs, hwf, Nat.le_trans I.next hnext, ?_, ?_, ?_, ?_, ?_, ?_⟩
  · intro x hx
    rcases (R.hmem x).1 hx with rfl | hx
    · exact hnf
    · exact I.nofail x hx.1
  · intro p
    rw [hdir, I.dir]
    constructor
    · rintro ((h | ⟨x, hx, h1, h2⟩) | ⟨_, h⟩)
      · exact Or.inl h
      · rcases R.old_cases H I x hx with rfl | hx'
        · exact Or.inr ⟨_, R.moved_mem, hmk, h2⟩
        · exact Or.inr ⟨x, hx'.1, h1, h2⟩
      · exact Or.inr ⟨_, R.moved_mem, hmk, h⟩
    · rintro (h | ⟨x, hx, h1, h2⟩)
      · exact Or.inl (Or.inl h)
      · rcases (R.hmem x).1 hx with rfl | hx'
        · by_cases e : pc = .mk
          · exact Or.inr ⟨e, h2⟩
          · exact Or.inl (Or.inr ⟨_, R.hth, e, h2⟩)
        · exact Or.inl (Or.inr ⟨x, hx'.1, h1, h2⟩)
  · intro p hp
    rcases hino p with e | ⟨e, _, h, _⟩
    · rw [e]
      apply I.keep
      intro x hx ex
      rcases R.old_cases H I x hx with rfl | hx'
      · cases ho : opened pc with
        | false => rfl
        | true => exact (hop ho).symm.trans (hp _ R.moved_mem ex)
      · exact hp x hx'.1 ex
    · have := hp _ R.moved_mem e.symm
      rw [h] at this; cases this
  · intro x hx ox
    rcases (R.hmem x).1 hx with rfl | ⟨hx', hne⟩
    · obtain ⟨i, a1, a2, a4⟩ := hself ox
      refine ⟨i, a1, a2, ?_, a4⟩
      cases ho : opened pc with
      | true =>
        obtain ⟨i0, b1, _, b3, _⟩ := I.opnd _ R.hth ho
        rw [hinoT ho, b1] at a1
        cases a1; exact b3
      | false =>
        have hk : fs.inoOf s.t = fs0.inoOf s.t := I.keep _ (fun x hx e => by
          rw [thr_unique H.distinct I.secs x hx _ R.hth e]; exact ho)
        rcases hino s.t with e | ⟨_, _, _, e1, e2⟩
        · rw [e, hk] at a1; exact Or.inl a1
        · rw [e2] at a1; cases a1
          exact Or.inr ⟨hk.symm.trans e1, I.next⟩
    · obtain ⟨j, a1, a2, a3, a4⟩ := I.opnd x hx' ox
      refine ⟨j, (hino' _ hne).trans a1, a2, a3, ?_⟩
      rw [hcon j (RunF.inoOf_lt I.wf a1) (fun ho e => hne (congrArg (·.sec.t) (I.inj H hx' R.hth ox ho a1 e)))]
      exact a4
  · intro j hj hp
    have hjT : opened pc = true → fs.inoOf s.t ≠ some j := fun ho => by
      rw [← hinoT ho]; exact hp _ R.moved_mem (hop ho)
    rw [hcon j (Nat.lt_of_lt_of_le hj I.next) hjT]
    apply I.other j hj
    intro x hx ox
    rcases R.old_cases H I x hx with rfl | ⟨hx', hne⟩
    · exact hjT ox
    · rw [← hino' _ hne]; exact hp x hx' ox
  · intro p q i hp hq hi
    rcases hino p with ep | ⟨rfl, _, _, _, ep⟩ <;> rcases hino q with eq | ⟨rfl, _, _, _, eq⟩
    · rw [ep] at hp; rw [eq] at hq; exact I.fresh p q i hp hq hi
    · rw [eq] at hq; cases hq
      rw [ep] at hp
      have := RunF.inoOf_lt I.wf hp; omega
    · rw [ep] at hp; cases hp
      rw [eq] at hq
      have := RunF.inoOf_lt I.wf hq; omega
    · rfl

theorem inv_mk (H : Hyp fs0 secs) (I : Inv fs0 secs fs ths) (R : Repl secs ths s .mk .opn ths') :
    (fs.mkdirs s.t.dropLast).2 = true ∧ Inv fs0 secs (fs.mkdirs s.t.dropLast).1 ths' := by
  have hm : (fs.mkdirs s.t.dropLast).2 = true := (wf_mkdirs_ok_iff I.wf _).2 (I.free (th := ⟨s, .mk⟩) H R.hth)
  obtain ⟨e1, e2, e3, e4⟩ := RunF.mkdirs_exact _ hm
  refine ⟨hm, I.step H R ((RunF.loc_mkdirs (fun _ => True) fs _).wf I.wf) (Nat.le_of_eq e3.symm) (Or.inl rfl) id ?_
    (fun p => Or.inl (RunF.inoOf_congr e1 p)) (fun j _ _ => RunF.content_congr e2 j) nofun⟩
  intro p
  rw [e4, Bool.or_eq_true, List.contains_iff_mem]
  exact or_congr_right ⟨fun h => ⟨rfl, h⟩, fun h => h.2⟩

/-- `set_len` or the positional write of a worker: the bytes behind its handle `i` become `bs` -/
theorem inv_data (H : Hyp fs0 secs) (I : Inv fs0 secs fs ths) (R : Repl secs ths s pc pc' ths') {i : Nat} {bs : Bytes}
    (ho : opened pc = true) (ho' : opened pc' = true) (hh : ∀ i0, handleOk pc i0 → i0 = i) (hh' : handleOk pc' i)
    (hexp : ∀ c, fs.content i = expd ⟨s, pc⟩ c → bs = expd ⟨s, pc'⟩ c) :
    Inv fs0 secs (fs.setData i bs) ths' := by
  obtain ⟨i0, t1, t2, -, t4⟩ := I.opnd _ R.hth ho
  cases hh i0 t2
  refine I.step H R (wf_setData I.wf _ _) (Nat.le_refl _) (Or.inr ho') (fun _ => ho')
    (fun _ => dir_same (by rintro rfl; cases ho)) (fun p => Or.inl rfl)
    (fun j _ hj => RD.Fs.content_setData_ne _ _ _ _ (fun e => hj ho (e ▸ t1))) (fun _ => ⟨i, t1, hh', ?_⟩)
  rw [content_setData, if_pos rfl]
  exact hexp _ t4

theorem look_target (H : Hyp fs0 secs) (I : Inv fs0 secs fs ths) (hth : ⟨s, .opn⟩ ∈ ths) :
    fs.inoOf s.t = fs0.inoOf s.t ∧
    (∀ i, fs0.inoOf s.t = some i → fs.look s.t = .file i) ∧
    (fs0.inoOf s.t = none → fs.look s.t = .notFound) := by
  have hk : fs.inoOf s.t = fs0.inoOf s.t := by
    apply I.keep
    intro x hx e
    rw [thr_unique H.distinct I.secs x hx _ hth e]; rfl
  refine ⟨hk, ?_⟩
  have hl := RunF.look_of_prefixes_free (fun q hq => I.free H hth q (mem_mk_of_properPrefix hq))
  rw [I.notDir H hth, hk] at hl
  constructor
  · intro i hi; rw [hi] at hl; simpa using hl
  · intro hi; rw [hi] at hl; simpa using hl

theorem inv_opn_old {i : Nat} (H : Hyp fs0 secs) (I : Inv fs0 secs fs ths)
    (R : Repl secs ths s .opn (.setLen i) ths') (hi : fs0.inoOf s.t = some i) :
    Inv fs0 secs fs ths' := by
  refine I.step H R I.wf (Nat.le_refl _) (Or.inr rfl) nofun (fun _ => dir_same nofun)
    (fun _ => Or.inl rfl) (fun _ _ _ => rfl) (fun _ => ⟨i, (look_target H I R.hth).1.trans hi, rfl, ?_⟩)
  -- nobody else holds `i`, so its bytes are those of the start
  have e : expd ⟨s, .setLen i⟩ (c0 fs0 s.t) = fs0.content i := by
    simp only [expd, c0, hi, Option.map_some, Option.getD_some]
  rw [e]
  apply I.other i (RunF.inoOf_lt H.wf0 hi)
  intro y hy oy
  obtain ⟨j, a1, _, a3, _⟩ := I.opnd y hy oy
  rw [a1]
  intro e; cases e
  rcases a3 with a3 | ⟨_, a4⟩
  · have hne : y.sec.t ≠ s.t := by
      intro e
      rw [thr_unique H.distinct I.secs y hy _ R.hth e] at oy
      cases oy
    exact H.noalias _ (I.sec_mem hy) _ (I.sec_mem R.hth) hne _ _ a3 hi rfl
  · have := RunF.inoOf_lt H.wf0 hi; omega

theorem inv_opn_new (H : Hyp fs0 secs) (I : Inv fs0 secs fs ths)
    (R : Repl secs ths s .opn (.setLen fs.next) ths') (hi : fs0.inoOf s.t = none) :
    fs.isDir s.t.dropLast = true ∧ Inv fs0 secs (RunF.addFile fs s.t) ths' := by
  obtain ⟨hk, _, hl⟩ := look_target H I R.hth
  rw [hi] at hk
  have hdirs : ∀ q ∈ RunX.mk s.t, fs.isDir q = true := fun q hq => (I.dir q).2 (Or.inr ⟨_, R.hth, nofun, hq⟩)
  refine ⟨hdirs _ (by simp [RunX.mk]), I.step H R
    ((RunF.loc_addFile (T := fun _ => True) trivial (hl hi) (fun q hq => hdirs q (mem_mk_of_properPrefix hq))).wf I.wf)
    (Nat.le_succ _) (Or.inr rfl) nofun (fun _ => dir_same nofun) (fun p => ?_)
    (fun j hj _ => RunF.content_addFile _ _ _ (Nat.ne_of_lt hj))
    (fun _ => ⟨fs.next, by rw [RunF.inoOf_addFile, if_pos rfl], rfl, ?_⟩)⟩
  · rw [RunF.inoOf_addFile]
    by_cases e : s.t = p
    · subst e; exact Or.inr ⟨rfl, rfl, rfl, hk, if_pos rfl⟩
    · exact Or.inl (if_neg e)
  · rw [RunF.content_addFile_new]
    simp only [expd, c0, hi, Option.map_none, Option.getD_none]

theorem inv_step (H : Hyp fs0 secs) (I : Inv fs0 secs fs ths) {k : Nat} (hk : ths[k]? = some th) :
    Inv fs0 secs (th.step fs).1 (ths.set k (th.step fs).2) := by
  obtain ⟨s, pc⟩ := th
  have hth := List.mem_of_getElem? hk
  have R := repl_set H.distinct I.secs hk
  cases pc with
  | mk =>
    obtain ⟨hm, I'⟩ := inv_mk H I (R .opn)
    rw [Thr.step_mk, hm]
    exact I'
  | opn =>
    obtain ⟨-, hl1, hl2⟩ := look_target H I hth
    rw [Thr.step_opn]
    cases hi : fs0.inoOf s.t with
    | some i =>
      simp only [RunF.openCreate_file (hl1 i hi), hl1 i hi]
      exact inv_opn_old H I (R _) hi
    | none =>
      obtain ⟨hpar, I'⟩ := inv_opn_new H I (R _) hi
      simp only [RunF.openCreate_new (hl2 hi) hpar, RunF.look_addFile (hl2 hi)]
      exact I'
  | setLen i =>
    rw [Thr.step_setLen, setLen_eq]
    exact inv_data H I (R (.write i)) rfl rfl (fun _ h => h.symm) rfl (fun c hc => congrArg (sl s.L) hc)
  | write i =>
    rw [Thr.step_write, writeAt_eq]
    exact inv_data H I (R .done) rfl rfl (fun _ h => h.symm) trivial (fun c hc => congrArg (wr s.off s.d) hc)
  | done =>
    obtain ⟨hlt, e⟩ := List.getElem?_eq_some_iff.1 hk
    rw [Thr.step_done, ← e, List.set_getElem_self]
    exact I
  | failed => exact absurd rfl (I.nofail _ hth)

theorem inv_run (H : Hyp fs0 secs) (sched : List Nat) :
    ∀ {fs : Fs} {ths : List Thr}, Inv fs0 secs fs ths →
      Inv fs0 secs (runSched fs ths sched).1 (runSched fs ths sched).2 := by
  induction sched with
  | nil => intro fs ths I; exact I
  | cons k rest ih =>
    intro fs ths I
    simp only [runSched]
    cases hk : ths[k]? with
    | none => exact ih I
    | some th => exact ih (inv_step H I hk)

theorem ino_char (I : Inv fs0 secs fs ths) (hd : ∀ th ∈ ths, th.pc = .done) (p : Path) :
    (∀ j, fs0.inoOf p = some j → fs.inoOf p = some j) ∧
    (fs0.inoOf p = none → (fs.inoOf p = none ∧ ¬ ∃ th ∈ ths, th.sec.t = p) ∨
      (∃ i, fs.inoOf p = some i ∧ fs0.next ≤ i ∧ ∃ th ∈ ths, th.sec.t = p)) := by
  by_cases ht : ∃ th ∈ ths, th.sec.t = p
  · obtain ⟨th, hth, rfl⟩ := ht
    obtain ⟨i, a1, _, a3, _⟩ := I.opnd th hth (by rw [hd th hth]; rfl)
    constructor
    · intro j hj
      rcases a3 with a3 | ⟨a3, _⟩
      · rw [a3] at hj; rw [a1, hj]
      · rw [a3] at hj; cases hj
    · intro h0
      rcases a3 with a3 | ⟨_, a4⟩
      · rw [a3] at h0; cases h0
      · exact Or.inr ⟨i, a1, a4, th, hth, rfl⟩
  · have hk : fs.inoOf p = fs0.inoOf p := by
      apply I.keep
      intro x hx e
      exact absurd ⟨x, hx, e⟩ ht
    constructor
    · intro j hj; rw [hk]; exact hj
    · intro h0; exact Or.inl ⟨by rw [hk]; exact h0, ht⟩

theorem A_char (H : Hyp fs0 secs) (I : Inv fs0 secs fs ths) (hd : ∀ th ∈ ths, th.pc = .done) (p q : Path) :
    (view fs).A p q = true ↔ ((∃ j, fs0.inoOf p = some j ∧ fs0.inoOf q = some j) ∨
      (fs0.inoOf p = none ∧ p = q ∧ ∃ th ∈ ths, th.sec.t = p)) := by
  show ((fs.inoOf p).isSome && fs.inoOf p == fs.inoOf q) = true ↔ _
  obtain ⟨p1, p2⟩ := ino_char I hd p
  obtain ⟨q1, q2⟩ := ino_char I hd q
  have lt0 : ∀ r j, fs0.inoOf r = some j → j < fs0.next := fun r j h => RunF.inoOf_lt H.wf0 h
  rw [Bool.and_eq_true, beq_iff_eq]
  constructor
  · rintro ⟨hs, he⟩
    obtain ⟨i, hi⟩ := Option.isSome_iff_exists.1 hs
    rw [hi] at he
    cases hp0 : fs0.inoOf p with
    | some j =>
      left
      have := p1 j hp0
      rw [hi] at this; cases this
      cases hq0 : fs0.inoOf q with
      | some j' =>
        have := q1 j' hq0
        rw [← he] at this; cases this
        exact ⟨i, rfl, rfl⟩
      | none =>
        exfalso
        rcases q2 hq0 with ⟨h, _⟩ | ⟨i', h, hle, _⟩
        · rw [h] at he; cases he
        · rw [h] at he; cases he
          have := lt0 p i hp0; omega
    | none =>
      right
      rcases p2 hp0 with ⟨h, _⟩ | ⟨i', h, hle, ht⟩
      · rw [h] at hi; cases hi
      · rw [hi] at h; cases h
        exact ⟨rfl, I.fresh p q i hi he.symm hle, ht⟩
  · rintro (⟨j, hp0, hq0⟩ | ⟨hp0, rfl, ht⟩)
    · rw [p1 j hp0, q1 j hq0]; exact ⟨rfl, rfl⟩
    · rcases p2 hp0 with ⟨_, h⟩ | ⟨i', h, _, _⟩
      · exact absurd ht h
      · rw [h]; exact ⟨rfl, rfl⟩

def doneThrs (secs : List Sec) : List Thr := secs.map (fun s => ⟨s, .done⟩)

theorem eq_doneThrs (hs : ths.map Thr.sec = secs) (hd : ∀ th ∈ ths, th.pc = .done) : ths = doneThrs secs := by
  rw [doneThrs, ← hs, List.map_map]
  refine (List.map_id ths).symm.trans (List.map_congr_left fun th hth => ?_)
  obtain ⟨s, pc⟩ := th
  obtain rfl : pc = .done := hd _ hth
  rfl

theorem view_eq_of_done (H : Hyp fs0 secs) {fs1 fs2 : Fs} {ths1 ths2 : List Thr}
    (I1 : Inv fs0 secs fs1 ths1) (I2 : Inv fs0 secs fs2 ths2)
    (d1 : ∀ th ∈ ths1, th.pc = .done) (d2 : ∀ th ∈ ths2, th.pc = .done) : view fs1 = view fs2 := by
  obtain rfl : ths1 = ths2 := (eq_doneThrs I1.secs d1).trans (eq_doneThrs I2.secs d2).symm
  have hop : ∀ th ∈ ths1, opened th.pc = true := fun th hth => by rw [d1 th hth]; rfl
  -- the content of an inode that was bound at the start
  have hold : ∀ r j, fs0.inoOf r = some j → fs1.content j = fs2.content j := by
    intro r j hr
    have hj := RunF.inoOf_lt H.wf0 hr
    by_cases ht : ∃ th ∈ ths1, fs0.inoOf th.sec.t = some j
    · obtain ⟨th, hth, h0⟩ := ht
      obtain ⟨i1, _, _, a3, a4⟩ := I1.opnd th hth (hop th hth)
      obtain ⟨i2, _, _, b3, b4⟩ := I2.opnd th hth (hop th hth)
      rw [h0] at a3 b3
      obtain rfl : j = i1 := a3.elim Option.some.inj (fun h => nomatch h.1)
      obtain rfl : j = i2 := b3.elim Option.some.inj (fun h => nomatch h.1)
      rw [a4, b4]
    · have key : ∀ {fs : Fs}, Inv fs0 secs fs ths1 → fs.content j = fs0.content j := by
        intro fs I
        apply I.other j hj
        intro th hth _ e
        obtain ⟨i, a1, _, a3, _⟩ := I.opnd th hth (hop th hth)
        rw [a1] at e; cases e
        rcases a3 with a3 | ⟨_, a4⟩
        · exact ht ⟨th, hth, a3⟩
        · omega
      rw [key I1, key I2]
  apply View.ext'
  · intro p
    show fs1.isDir p = fs2.isDir p
    rw [Bool.eq_iff_iff, I1.dir, I2.dir]
  · intro p
    show (fs1.inoOf p).map fs1.content = (fs2.inoOf p).map fs2.content
    by_cases ht : ∃ th ∈ ths1, th.sec.t = p
    · obtain ⟨th, hth, rfl⟩ := ht
      obtain ⟨i1, a1, _, _, a4⟩ := I1.opnd th hth (hop th hth)
      obtain ⟨i2, b1, _, _, b4⟩ := I2.opnd th hth (hop th hth)
      rw [a1, b1, Option.map_some, Option.map_some, a4, b4]
    · rw [I1.keep p (fun x hx e => absurd ⟨x, hx, e⟩ ht), I2.keep p (fun x hx e => absurd ⟨x, hx, e⟩ ht)]
      cases h0 : fs0.inoOf p with
      | none => rfl
      | some j => rw [Option.map_some, Option.map_some, hold p j h0]
  · intro p q
    rw [Bool.eq_iff_iff, A_char H I1 d1, A_char H I2 d1]

/-- the schedule that runs the workers one after the other -/
def seqSched : Nat → Nat → List Nat
  | _, 0 => []
  | n, m + 1 => List.replicate 4 n ++ seqSched (n + 1) m

theorem run_seq (secs : List Sec) : ∀ (fs r : Fs) (pre : List Thr), fs.crits secs = some r →
    runSched fs (pre ++ initThrs secs) (seqSched pre.length secs.length) = (r, pre ++ doneThrs secs) := by
  induction secs with
  | nil =>
    intro fs r pre h
    simp only [Fs.crits, Option.some.injEq] at h
    subst h; rfl
  | cons s l ih =>
    intro fs r pre h
    simp only [Fs.crits] at h
    cases h1 : fs.crit s.t s.L s.off s.d with
    | none => rw [h1] at h; cases h
    | some f1 =>
      rw [h1, Option.bind_some] at h
      simp only [List.length_cons, seqSched, initThrs, List.map_cons, doneThrs]
      rw [runSched_append, (crit_iff_run fs s f1 pre _).1 h1]
      have := ih f1 r (pre ++ [⟨s, .done⟩]) h
      simp only [List.length_append, List.length_singleton, List.append_assoc, List.singleton_append,
        initThrs, doneThrs] at this
      exact this

def rank : SecPc → Nat
  | .mk => 0 | .opn => 1 | .setLen _ => 2 | .write _ => 3 | .done => 4 | .failed => 4

/-- a step moves a worker on (a failed worker counts as arrived) -/
theorem rank_step (fs : Fs) (th : Thr) : min 4 (rank th.pc + 1) ≤ rank (th.step fs).2.pc := by
  obtain ⟨s, pc⟩ := th
  cases pc with
  | mk => rw [Thr.step_mk]; split <;> simp [rank]
  | opn => rw [Thr.step_opn]; split <;> simp [rank]
  | _ => simp [Thr.step, rank]

theorem run_progress (sched : List Nat) : ∀ (fs : Fs) (ths : List Thr) (k : Nat) (th' : Thr),
    (runSched fs ths sched).2[k]? = some th' →
    ∃ th, ths[k]? = some th ∧ min 4 (rank th.pc + sched.count k) ≤ rank th'.pc := by
  induction sched with
  | nil => intro fs ths k th' h; exact ⟨th', h, Nat.min_le_right _ _⟩
  | cons j rest ih =>
    intro fs ths k th' h
    simp only [runSched] at h
    cases hj : ths[j]? with
    | none =>
      rw [hj] at h
      obtain ⟨th, h1, h2⟩ := ih _ _ _ _ h
      have hne : j ≠ k := by intro e; subst e; rw [h1] at hj; cases hj
      exact ⟨th, h1, by rw [List.count_cons_of_ne hne]; exact h2⟩
    | some thj =>
      rw [hj] at h
      obtain ⟨th, h1, h2⟩ := ih _ _ _ _ h
      by_cases e : j = k
      · subst e
        rw [List.getElem?_set_self (List.getElem?_eq_some_iff.1 hj).1] at h1
        cases h1
        have := rank_step fs thj
        exact ⟨thj, hj, by rw [List.count_cons_self]; omega⟩
      · rw [List.getElem?_set_ne e] at h1
        exact ⟨th, h1, by rw [List.count_cons_of_ne e]; exact h2⟩

end TB.RunOps
