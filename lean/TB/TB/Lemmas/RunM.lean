/-
  The frame of a run at tree level (C03frame); the frame of the contents is `RunK.frame`.

  * `replay_isDir`: no logged operation removes a directory;
  * `OpFactM`/`run_opFactM`: an `openc` of the run names an export image, a `mkdirs` the parent of one;
  * `NInv`: names and directories of the replayed tree are old or (prefixes of) export images.
-/
import TB.Spec.ExportSpec
import TB.Lemmas.RunK
namespace TB.RunM
open TB

variable {table : List TEntry} {fs0 : Fs}

theorem replay_isDir (ops : List Op) (fs : Fs) {d : Path} (hd : fs.isDir d = true) :
    (replay fs ops).isDir d = true :=
  replay_ind (Q := fun fs => fs.isDir d = true) (F := fun _ => True)
    (fun _ o _ h => RunK.applyOp_isDir o h) ops fs (fun _ _ => trivial) hd

theorem mkdirs_new (fs : Fs) (p d : Path) (hd : (fs.mkdirs p).1.isDir d = true) :
    fs.isDir d = true ∨ Path.isPrefixOf d p :=
  ((RunF.mkdirs_spec fs p).2.2.2.2.1 d hd).imp_right fun h => RunF.prefix_of_mem h.2

theorem applyOp_inoOf {fs : Fs} (o : Op) {q : Path} {j : Nat} (h : (applyOp fs o).inoOf q = some j) :
    fs.inoOf q = some j ∨ (o.kind = .openc ∧ q = o.path) := by
  revert h
  refine RunJ.applyOp_cases
    (Q := fun fs' => fs'.inoOf q = some j → fs.inoOf q = some j ∨ (o.kind = .openc ∧ q = o.path)) fs o Or.inl
    ?_ ?_ (fun _ _ _ _ => Or.inl) (fun _ _ _ _ _ => Or.inl)
  · intro _ h
    rw [RunF.inoOf_congr (RunF.mkdirs_spec fs o.path).1] at h; exact Or.inl h
  · intro hk _ _ h
    rcases RunF.inoOf_addFile_some h with ⟨e, _⟩ | ⟨_, h⟩
    · exact Or.inr ⟨hk, e⟩
    · exact Or.inl h

theorem applyOp_isDir_new {fs : Fs} (o : Op) {d : Path} (h : (applyOp fs o).isDir d = true) :
    fs.isDir d = true ∨ (o.kind = .mkdirs ∧ Path.isPrefixOf d o.path) := by
  revert h
  refine RunJ.applyOp_cases
    (Q := fun fs' => fs'.isDir d = true → fs.isDir d = true ∨ (o.kind = .mkdirs ∧ Path.isPrefixOf d o.path)) fs o
    Or.inl ?_ (fun _ _ _ => Or.inl) (fun _ _ _ _ => Or.inl) (fun _ _ _ _ _ => Or.inl)
  intro hk h
  exact (mkdirs_new fs o.path d h).imp_right fun h' => ⟨hk, h'⟩

/-- an `openc` names the image of a non-padding table entry, a `mkdirs` the parent of one -/
def OpFactM (table : List TEntry) (o : Op) : Prop :=
  (o.kind = .openc → ∃ e ∈ table, e.isPad = false ∧ o.path = e.fullTarget) ∧
  (o.kind = .mkdirs → ∃ e ∈ table, e.isPad = false ∧ o.path = e.fullTarget.dropLast)

theorem OpFactM.of_not_mutating {o : Op} (h : o.kind.mutating = false) : OpFactM table o :=
  ⟨fun hk => (by rw [hk] at h; cases h), fun hk => (by rw [hk] at h; cases h)⟩

theorem run_opFactM (H : Bytes → Bytes) (inp : RunIn) :
    ∀ o ∈ (run H inp).ops, OpFactM (run H inp).table o := by
  intro o ho
  rcases (run_inv H inp).2 o ho with (h | h | ⟨e, he, hp, hkind, hpath⟩) |
    ⟨w, hw, h | ⟨buf, hb, k, seg, hseg, hp, hs⟩, hent⟩
  · exact .of_not_mutating (by rw [h]; rfl)
  · exact .of_not_mutating (by rw [h]; rfl)
  · refine ⟨fun hk => ?_, fun hk => ?_⟩
    · rcases hkind with h | h <;> rw [h] at hk <;> cases hk
    · rcases hkind with h | h <;> rw [h] at hk <;> cases hk
  · exact .of_not_mutating h.not_mutating
  · have hmem := List.mem_of_getElem? hseg
    have hc := hs.confined.1
    refine ⟨fun hk => ⟨seg.ent, hent seg hmem, hp, ?_⟩, fun hk => ⟨seg.ent, hent seg hmem, hp, ?_⟩⟩
    · rw [hk] at hc; simpa using hc
    · rw [hk] at hc; simpa using hc

structure NInv (table : List TEntry) (fs0 fs : Fs) : Prop where
  f : ∀ q j, fs.inoOf q = some j →
    fs0.inoOf q = some j ∨ ∃ e ∈ table, e.isPad = false ∧ e.fullTarget = q
  d : ∀ d, fs.isDir d = true →
    fs0.isDir d = true ∨ ∃ e ∈ table, e.isPad = false ∧ Path.isPrefixOf d e.fullTarget.dropLast

theorem NInv.step {fs : Fs} (o : Op) (hf : OpFactM table o) (h : NInv table fs0 fs) :
    NInv table fs0 (applyOp fs o) := by
  refine ⟨?_, ?_⟩
  · intro q j hq
    rcases applyOp_inoOf o hq with h' | ⟨hk, rfl⟩
    · exact h.f q j h'
    · obtain ⟨e, he, hp, hpath⟩ := hf.1 hk
      exact Or.inr ⟨e, he, hp, hpath.symm⟩
  · intro d hd
    rcases applyOp_isDir_new o hd with h' | ⟨hk, hpre⟩
    · exact h.d d h'
    · obtain ⟨e, he, hp, hpath⟩ := hf.2 hk
      rw [hpath] at hpre
      exact Or.inr ⟨e, he, hp, hpre⟩

theorem nothing_new (H : Bytes → Bytes) (inp : RunIn) (ops : List Op) (hops : ∀ o ∈ ops, o ∈ (run H inp).ops) :
    NInv (run H inp).table inp.fs (replay inp.fs ops) :=
  replay_ind (Q := NInv (run H inp).table inp.fs) (F := OpFactM (run H inp).table)
    (fun _ o hf h => h.step o hf) ops inp.fs (fun o ho => run_opFactM H inp o (hops o ho))
    ⟨fun _ _ h => Or.inl h, fun _ h => Or.inl h⟩

end TB.RunM
