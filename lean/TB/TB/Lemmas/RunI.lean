/-
  The idle run: on a well-formed tree where every piece already verifies in its export images, a fault-free run
  only reads. Validation, the resize pre-flight and indexing leave the tree alone; the cache holds only regular
  files (`CF`), every image is registered and comes first in its candidate list, so each piece is answered
  `found` from its own image and nothing is written (`idle_core`).
-/
import TB.Spec.ExportSpec
import TB.Props.C04
import TB.Props.C04a
import TB.Lemmas.RunB
import TB.Lemmas.RunC
import TB.Lemmas.RunG
import TB.Lemmas.RunARun
import TB.Lemmas.RunF
import TB.Lemmas.RunDReplay
import TB.Lemmas.RunS
import TB.Props.C14
namespace TB.RunI
open TB.RC

theorem fst_unique {α β : Type} {l : List (α × β)} (hnd : (l.map (·.1)).Nodup) {p : α} {i j : β}
    (hi : (p, i) ∈ l) (hj : (p, j) ∈ l) : i = j := by
  induction l with
  | nil => cases hi
  | cons a l ih =>
    rw [List.map_cons, List.nodup_cons] at hnd
    rcases List.mem_cons.1 hi with h1 | h1 <;> rcases List.mem_cons.1 hj with h2 | h2
    · rw [← h1] at h2
      exact (Prod.mk.inj h2).2.symm
    · exfalso
      apply hnd.1
      rw [← h1]
      exact List.mem_map.2 ⟨(p, j), h2, rfl⟩
    · exfalso
      apply hnd.1
      rw [← h2]
      exact List.mem_map.2 ⟨(p, i), h1, rfl⟩
    · exact ih hnd.2 h1 h2

theorem look_of_mem {fs : Fs} (hwf : FsWF fs) {p : Path} {i : Nat} (h : (p, i) ∈ fs.files) :
    fs.look p = .file i := by
  refine RunF.look_file_of (fun q hq => RunF.wf_dir_not_file hwf (hwf.2.2.2 p i h q hq)) (hwf.2.2.1 p i h) ?_
  cases hi : fs.inoOf p with
  | none => exact absurd rfl (RunF.inoOf_none hi (p, i) h)
  | some j => rw [fst_unique hwf.2.1 (RunF.inoOf_mem hi) h]

/-- every name in the cache resolves to the inode it is registered with -/
def CF (fs : Fs) (c : Cache) : Prop := ∀ len m, (len, m) ∈ c → ∀ x ∈ m, fs.look x.1 = .file x.2

theorem cacheGet_mem {c : Cache} {len : Nat} {m : List (Path × Nat)} (h : cacheGet c len = some m) :
    ∃ l, (l, m) ∈ c := by
  unfold cacheGet at h
  rw [Option.map_eq_some_iff] at h
  obtain ⟨e, he, rfl⟩ := h
  exact ⟨e.1, List.mem_of_find?_eq_some he⟩

theorem CF.get {fs : Fs} {c : Cache} (h : CF fs c) {len : Nat} {m : List (Path × Nat)}
    (hm : cacheGet c len = some m) : ∀ x ∈ m, fs.look x.1 = .file x.2 := by
  obtain ⟨l, hl⟩ := cacheGet_mem hm
  exact h l m hl

theorem CF.nil (fs : Fs) : CF fs [] := by
  intro len m h; cases h

theorem CF.insert {fs : Fs} {c : Cache} (h : CF fs c) (len : Nat) {p : Path} {i : Nat}
    (hp : fs.look p = .file i) : CF fs (cacheInsert c len p i) := by
  unfold cacheInsert
  cases hg : cacheGet c len with
  | none =>
    simp only
    intro l m hm x hx
    rcases List.mem_cons.1 hm with hm | hm
    · obtain ⟨_, rfl⟩ := Prod.mk.inj hm
      rw [List.mem_singleton] at hx
      subst hx
      exact hp
    · exact h l m hm x hx
  | some m0 =>
    simp only
    intro l m hm x hx
    rcases List.mem_cons.1 hm with hm | hm
    · obtain ⟨_, rfl⟩ := Prod.mk.inj hm
      rcases List.mem_cons.1 hx with rfl | hx
      · exact hp
      · exact h.get hg x (List.mem_filter.1 hx).1
    · exact h l m (List.mem_filter.1 hm).1 x hx

theorem openr_roext (st : St) (p : Path) : ROExt st (st.openr p).1 :=
  St.op_pure_ext (k := .openr) (b := fun fs => match fs.look p with | .file _ => true | .dir => true | _ => false)
    rfl (show st.op .openr p _ = ((st.openr p).1, (st.openr p).2) from rfl)

theorem addExportPaths_idle (fs : Fs) (st : St) (c : Cache) (table : List TEntry)
    (hfs : st.fs = fs) (hc : CF fs c) :
    ROExt st (addExportPaths st c table).1 ∧ CF fs (addExportPaths st c table).2 := by
  induction table generalizing st c with
  | nil => exact ⟨ROExt.refl _, hc⟩
  | cons e es ih =>
    rw [RunG.addExportPaths_cons]
    have e1 := openr_roext st e.fullTarget
    have hfs1 : (st.openr e.fullTarget).1.fs = fs := e1.fs.trans hfs
    split
    · exact ih st c hfs hc
    · split
      · obtain ⟨a, b⟩ := ih _ c hfs1 hc
        exact ⟨e1.trans a, b⟩
      · split
        · rename_i i hi
          split
          · obtain ⟨a, b⟩ := ih _ _ hfs1 (hc.insert e.fileLength (by rw [← hfs1]; exact hi))
            exact ⟨e1.trans a, b⟩
          · obtain ⟨a, b⟩ := ih _ c hfs1 hc
            exact ⟨e1.trans a, b⟩
        · obtain ⟨a, b⟩ := ih _ c hfs1 hc
          exact ⟨e1.trans a, b⟩

theorem addByDirectory_cf {fs : Fs} (hwf : FsWF fs) {c : Cache} (hc : CF fs c) (dir : Path) (lengths : List Nat) :
    CF fs (addByDirectory fs c dir lengths) := by
  unfold addByDirectory
  have key : ∀ (l : List (Path × Nat)), (∀ e ∈ l, e ∈ fs.files) → ∀ c, CF fs c →
      CF fs (l.foldl (fun c e =>
        let len := (fs.content e.2).length
        if dir.length ≤ e.1.length && e.1.take dir.length == dir && e.1 != dir && lengths.contains len
        then cacheInsert c len e.1 e.2 else c) c) := by
    intro l
    induction l with
    | nil => intro _ c hc; exact hc
    | cons a l ih =>
      intro hl c hc
      rw [List.foldl_cons]
      apply ih (fun e he => hl e (List.mem_cons_of_mem _ he))
      simp only
      split
      · exact hc.insert _ (look_of_mem hwf (hl a List.mem_cons_self))
      · exact hc
  exact key fs.files (fun _ h => h) c hc

theorem scan_cf {fs : Fs} (hwf : FsWF fs) (lengths : List Nat) (scan : List PathArg) {c : Cache} (hc : CF fs c) :
    CF fs (scan.foldl (fun c d => addByDirectory fs c d.path lengths) c) := by
  induction scan generalizing c with
  | nil => exact hc
  | cons d ds ih => exact ih (addByDirectory_cf hwf hc d.path lengths)

theorem validSearches_sub {e : TEntry} {m : List (Path × Nat)} {obs : List Path}
    (h : validSearches e m obs = true) : ∀ p ∈ obs, ∃ i, (p, i) ∈ m := by
  unfold validSearches at h
  simp only [Bool.and_eq_true] at h
  -- the first clause of `validSearches`: every observed path is a name of `m`
  obtain ⟨⟨⟨⟨h1, _⟩, _⟩, _⟩, _⟩ := h
  intro p hp
  have := List.all_eq_true.1 h1 p hp
  obtain ⟨j, hj⟩ := Option.isSome_iff_exists.1 this
  rw [Option.map_eq_some_iff] at hj
  obtain ⟨y, hy, hy2⟩ := hj
  have hm := List.mem_of_find?_eq_some hy
  have hp := List.find?_some hy
  refine ⟨y.2, ?_⟩
  have : y.1 = p := by simpa using hp
  rw [← this]
  exact hm

theorem mem_pruneLinks (l : List (Path × Nat)) (seen : List Nat) (p : Path) (h : p ∈ pruneLinks l seen) :
    ∃ i, (p, i) ∈ l := by
  induction l generalizing seen with
  | nil => simp [pruneLinks] at h
  | cons a rest ih =>
    obtain ⟨p0, i0⟩ := a
    rw [pruneLinks] at h
    split at h
    · obtain ⟨i, hi⟩ := ih seen h
      exact ⟨i, List.mem_cons_of_mem _ hi⟩
    · rcases List.mem_cons.1 h with rfl | h
      · exact ⟨i0, List.mem_cons_self⟩
      · obtain ⟨i, hi⟩ := ih _ h
        exact ⟨i, List.mem_cons_of_mem _ hi⟩

theorem canonicalSearches_sub (e : TEntry) (m : List (Path × Nat)) :
    ∀ p ∈ canonicalSearches e m, ∃ i, (p, i) ∈ m := by
  intro p hp
  unfold canonicalSearches at hp
  obtain ⟨i, hi⟩ := mem_pruneLinks _ _ p hp
  exact ⟨i, (RunG.mem_sortBy _ _ _).1 hi⟩

theorem insertBy_head_zero {α : Type} (f : α → Nat) (g : α → α → Bool) (a : α) (l : List α)
    (h : f a = 0 ∨ ∃ b t, l = b :: t ∧ f b = 0) :
    ∃ b t, insertBy (fun x y => f x < f y || (f x == f y && g x y)) a l = b :: t ∧ f b = 0 := by
  cases l with
  | nil =>
    rcases h with h | ⟨b, t, hl, _⟩
    · exact ⟨a, [], rfl, h⟩
    · cases hl
  | cons b bs =>
    rw [insertBy]
    split
    · rename_i hlt
      refine ⟨a, b :: bs, rfl, ?_⟩
      rcases h with h | ⟨b', t, hl, hb⟩
      · exact h
      · cases hl
        simp only [Bool.or_eq_true, decide_eq_true_eq, Bool.and_eq_true, beq_iff_eq] at hlt
        omega
    · rename_i hlt
      refine ⟨b, _, rfl, ?_⟩
      rcases h with h | ⟨b', t, hl, hb⟩
      · simp only [Bool.or_eq_true, decide_eq_true_eq, Bool.and_eq_true, beq_iff_eq, not_or, not_and] at hlt
        omega
      · cases hl
        exact hb

theorem sortBy_head_zero {α : Type} (f : α → Nat) (g : α → α → Bool) (l : List α) (x : α) (hx : x ∈ l)
    (h0 : f x = 0) :
    ∃ b t, sortBy (fun x y => f x < f y || (f x == f y && g x y)) l = b :: t ∧ f b = 0 := by
  induction l with
  | nil => cases hx
  | cons a l ih =>
    unfold sortBy
    rw [List.foldr_cons]
    apply insertBy_head_zero
    rcases List.mem_cons.1 hx with rfl | hx
    · exact Or.inl h0
    · exact Or.inr (ih hx)

theorem canonicalSearches_head (e : TEntry) (m : List (Path × Nat)) (i : Nat) (hm : (e.fullTarget, i) ∈ m) :
    ∃ rest, canonicalSearches e m = e.fullTarget :: rest := by
  unfold canonicalSearches
  obtain ⟨b, t, hs, hb⟩ := sortBy_head_zero (fun a : Path × Nat => similarity a.1 e.partialTarget e.fullTarget)
    (fun a b => pathLt a.1 b.1) m (e.fullTarget, i) hm (similarity_eq_zero.2 rfl)
  simp only at hs hb ⊢
  rw [hs]
  obtain ⟨p, j⟩ := b
  rw [pruneLinks]
  simp only [List.contains_nil, Bool.false_eq_true, if_false]
  have hp : p = e.fullTarget := similarity_eq_zero.1 hb
  rw [hp]
  exact ⟨_, rfl⟩

theorem populateSearches_head (c : Cache) (obs : List (Nat × List Path)) (e : TEntry) (es : List TEntry) :
    ∃ s, (populateSearches c obs (e :: es)).1 = { e with searches := s } :: (populateSearches c obs es).1 ∧
      ((s = e.searches ∧ (e.isPad = true ∨ cacheGet c e.fileLength = none)) ∨
       (e.isPad = false ∧ ∃ m paths, cacheGet c e.fileLength = some m ∧ s = some paths ∧
          (validSearches e m paths = true ∨ paths = canonicalSearches e m))) := by
  rw [populateSearches]
  dsimp only
  split
  · rename_i hp
    exact ⟨_, rfl, .inl ⟨rfl, .inl hp⟩⟩
  · rename_i hp
    have hp : e.isPad = false := Bool.eq_false_iff.2 hp
    split
    · rename_i hn
      exact ⟨_, rfl, .inl ⟨rfl, .inr hn⟩⟩
    · rename_i m hm
      split
      · rename_i o _
        split
        · rename_i hv
          exact ⟨_, rfl, .inr ⟨hp, m, o, hm, rfl, .inl hv⟩⟩
        · exact ⟨_, rfl, .inr ⟨hp, m, _, hm, rfl, .inr rfl⟩⟩
      · exact ⟨_, rfl, .inr ⟨hp, m, _, hm, rfl, .inr rfl⟩⟩

theorem populate_spec (c : Cache) (obs : List (Nat × List Path)) (es : List TEntry) :
    ∀ e' ∈ (populateSearches c obs es).1, e'.isPad = false → ∀ m, cacheGet c e'.fileLength = some m →
      ∃ paths, e'.searches = some paths ∧ (validSearches e' m paths = true ∨ paths = canonicalSearches e' m) := by
  induction es with
  | nil => intro e' he'; cases he'
  | cons e es ih =>
    obtain ⟨s, heq, hs⟩ := populateSearches_head c obs e es
    rw [heq]
    intro e' he' hpad m hm
    rcases List.mem_cons.1 he' with rfl | he'
    · rcases hs with ⟨_, hp | hn⟩ | ⟨_, m', paths, hm', rfl, hor⟩
      · rw [show e.isPad = false from hpad] at hp; cases hp
      · rw [show cacheGet c e.fileLength = some m from hm] at hn; cases hn
      · rw [show cacheGet c e.fileLength = some m from hm] at hm'
        cases hm'
        exact ⟨paths, rfl, hor⟩
    · exact ih e' he' hpad m hm

theorem validateAll_ok (st : St) (args : List PathArg) (hf : st.faults = [])
    (h : ∀ a ∈ args, a.absolute = true ∧ st.fs.look a.path = .dir) : (validateAll st args).2 = true := by
  obtain ⟨fs, ops, faults⟩ := st
  cases hf
  obtain ⟨new, _, e⟩ := RunS.validateAll_nofault fs args
  rw [e ops]
  exact List.all_eq_true.2 fun a ha => by simp [RunS.argOk, h a ha]

theorem validateAll_roext (st : St) (args : List PathArg) : ROExt st (validateAll st args).1 :=
  ROExt.of_trace (validateAll_trace st args) fun _ h => by rw [h]; rfl

theorem solvePiece_idle (H : Bytes → Bytes) (st : St) (w : Work)
    (hnf : NoFutureFaults st)
    (hfirst : ∀ seg ∈ w.segs, seg.ent.isPad = false →
      ∃ rest i, seg.ent.searches = some (seg.ent.fullTarget :: rest) ∧ st.fs.look seg.ent.fullTarget = .file i
        ∧ seg.off + seg.len ≤ (st.fs.content i).length)
    (hreadable : ∀ seg ∈ w.segs, ∀ paths, seg.ent.searches = some paths → ∀ p ∈ paths, ∃ i, st.fs.look p = .file i)
    (hver : VerE H st.fs w) :
    (solvePiece H st w).2 = .found ∧ ROExt st (solvePiece H st w).1 := by
  by_cases hs : w.segs = []
  · obtain ⟨parts, hp, hh⟩ := hver
    rw [hs] at hp
    simp at hp
    subst hp
    have : solvePiece H st w = (st, .found) := by
      unfold solvePiece
      rw [hs]
      have hh' : H [] = w.hash := by simpa using hh
      simp [preload, searchProduct, writeSegs, hh']
    rw [this]
    exact ⟨rfl, ROExt.refl _⟩
  · obtain ⟨h1, h2, h3⟩ := C04b_untouched H st w hnf hs hfirst hreadable hver
    refine ⟨h1, ?_⟩
    obtain ⟨hfa, new, hops, _⟩ := (solvePiece_trace H st w).reach
    refine ⟨h2, hfa, new, hops, ?_⟩
    have : newOps st (solvePiece H st w).1 = new := by
      unfold newOps
      rw [hops, List.drop_left]
    rw [this] at h3
    exact h3

theorem solveAll_idle (H : Bytes → Bytes) (P : Work → Prop) (fs : Fs)
    (hP : ∀ w st, P w → st.fs = fs → st.faults = [] →
      (solvePiece H st w).2 = .found ∧ ROExt st (solvePiece H st w).1) :
    ∀ (ws : List Work) (st : St) (c : Counters) (acc : List Counters),
      (∀ w ∈ ws, P w) → st.fs = fs → st.faults = [] →
      (solveAll H st ws c acc).2.2 = false ∧ ROExt st (solveAll H st ws c acc).1 ∧
      (((solveAll H st ws c acc).2.1 = acc ∧ ws = []) ∨
        (solveAll H st ws c acc).2.1.getLast? = some ⟨c.success + ws.length, c.failed, c.fault⟩) := by
  intro ws
  induction ws with
  | nil =>
    intro st c acc _ _ _
    exact ⟨rfl, ROExt.refl _, Or.inl ⟨rfl, rfl⟩⟩
  | cons w ws ih =>
    intro st c acc hws hfs hfa
    obtain ⟨hf, he⟩ := hP w st (hws w List.mem_cons_self) hfs hfa
    rw [RB.solveAll_cons, if_neg (by rw [hf]; exact fun h => by cases h), hf]
    obtain ⟨i1, i2, i3⟩ := ih (solvePiece H st w).1 (c.bump .found) (acc ++ [c.bump .found])
      (fun x hx => hws x (List.mem_cons_of_mem _ hx)) (he.fs.trans hfs) (he.faults.trans hfa)
    refine ⟨i1, he.trans i2, Or.inr ?_⟩
    rcases i3 with ⟨i3, rfl⟩ | i3
    · rw [i3]
      simp [Counters.bump]
    · rw [i3]
      simp only [Counters.bump, List.length_cons, Option.some.injEq, Counters.mk.injEq, and_true]
      omega

/-- no export image of the table has the wrong length, is a directory, or lies below a regular file -/
def LensOk (fs : Fs) (es : List TEntry) : Prop :=
  ∀ e ∈ es, e.isPad = false →
    (∀ i, fs.look e.fullTarget = .file i → (fs.content i).length = e.fileLength) ∧
    fs.look e.fullTarget ≠ .notDir ∧ fs.look e.fullTarget ≠ .dir

theorem resizePass2_idle (es : List TEntry) : ∀ st : St, st.faults = [] → LensOk st.fs es →
    (resizePass2 st es).2 = .continue ∧ ROExt st (resizePass2 st es).1 := by
  induction es with
  | nil => intro st _ _; exact ⟨rfl, ROExt.refl _⟩
  | cons e es ih =>
    intro st hfa h
    obtain ⟨st', new, h1, h2, _, h4, h5, h6⟩ := RunY.pass2_cons_nf st hfa e es
    have hshort : ¬ (e.isPad = false ∧
        ∃ i, st.fs.look e.fullTarget = .file i ∧ (st.fs.content i).length < e.fileLength) := by
      rintro ⟨hp, i, hi, hlt⟩
      rw [(h e List.mem_cons_self hp).1 i hi] at hlt
      exact Nat.lt_irrefl _ hlt
    have hs : RunY.stop2 st.fs e = false := by
      cases hs : RunY.stop2 st.fs e
      · rfl
      · obtain ⟨hp, hl | hl⟩ := (RunY.stop2_iff _ _).1 hs
        · exact absurd hl (h e List.mem_cons_self hp).2.1
        · exact absurd hl (h e List.mem_cons_self hp).2.2
    rw [hs, if_neg Bool.false_ne_true] at h4 h6
    rw [RunN.step_eq_self hshort] at h4
    have e1 : ROExt st st' :=
      ⟨h4, h1.trans hfa.symm, new, h2, fun o ho => by rw [h5.resolve_right hshort o ho]; rfl⟩
    obtain ⟨i1, i2⟩ := ih st' h1 (by rw [h4]; exact fun x hx => h x (List.mem_cons_of_mem _ hx))
    rw [h6]
    exact ⟨i1, e1.trans i2⟩

theorem fixExportFileLengths_idle (fs : Fs) (es : List TEntry) (h : LensOk fs es) (st : St)
    (hfs : st.fs = fs) (hfa : st.faults = []) :
    (fixExportFileLengths st es).2 = .continue ∧ ROExt st (fixExportFileLengths st es).1 := by
  subst hfs
  have e1 := RunY.pass1_roext st es
  have hc : (resizePass1 st es).2 = .continue := by
    rcases RunY.flow_cases (resizePass1 st es).2 with hc | hc
    · obtain ⟨e, he, hs⟩ := (RunY.pass1_error_iff es st hfa).1 hc
      rcases (RunY.stop1_iff _ _).1 hs with ⟨hp, i, hi, hgt⟩ | ⟨hp, hnd⟩
      · rw [(h e he hp).1 i hi] at hgt
        exact absurd hgt (Nat.lt_irrefl _)
      · exact absurd hnd (h e he hp).2.1
    · exact hc
  rw [RunY.fix_continue _ _ hc]
  obtain ⟨b1, b2⟩ := resizePass2_idle es _ (e1.faults.trans hfa) (by rw [e1.fs]; exact h)
  exact ⟨b1, e1.trans b2⟩

theorem populate_searches_sub (c : Cache) (obs : List (Nat × List Path)) (es : List TEntry) :
    ∀ e' ∈ (populateSearches c obs es).1, ∀ paths, e'.searches = some paths →
      (∃ e ∈ es, e.searches = some paths) ∨
      (∃ len m, cacheGet c len = some m ∧ ∀ p ∈ paths, ∃ i, (p, i) ∈ m) := by
  induction es with
  | nil => intro e' he'; cases he'
  | cons e es ih =>
    obtain ⟨s, heq, hs⟩ := populateSearches_head c obs e es
    rw [heq]
    intro e' he' paths hps
    rcases List.mem_cons.1 he' with rfl | he'
    · rcases hs with ⟨rfl, _⟩ | ⟨_, m, paths', hm, rfl, hor⟩
      · exact .inl ⟨e, List.mem_cons_self, hps⟩
      · cases hps
        refine .inr ⟨_, m, hm, ?_⟩
        rcases hor with hv | rfl
        · exact validSearches_sub hv
        · exact canonicalSearches_sub e m
    · rcases ih e' he' paths hps with ⟨e0, he0, h0⟩ | r
      · exact .inl ⟨e0, List.mem_cons_of_mem _ he0, h0⟩
      · exact .inr r

theorem idle_core (H : Bytes → Bytes) (inp : RunIn) (hwf : FsWF inp.fs) (hne : inp.torrents ≠ [])
    (hfa : inp.faults = []) (hv : RB.valOk inp = true)
    (hflow : inp.resize = true → (RB.fixRes inp).2 = .continue)
    (h2 : ROExt ⟨inp.fs, [], inp.faults⟩ (RB.runSt2 inp))
    (hwork : ∃ ws, convertPiecesToWork (run H inp).table (dedupTorrents (sortTorrents inp.torrents)) = some ws)
    (hall : ∀ w ∈ (run H inp).work, VerE H inp.fs w ∧ ∀ s ∈ w.segs, s.ent.isPad = false →
      ∃ i, inp.fs.look s.ent.fullTarget = .file i ∧ (inp.fs.content i).length = s.ent.fileLength) :
    (run H inp).result = .ok () ∧ (run H inp).fs = inp.fs ∧
    (∀ o ∈ (run H inp).ops, o.kind.mutating = false) ∧
    (∀ c ∈ (run H inp).counters.getLast?, c.success = (run H inp).work.length ∧ c.failed = 0 ∧ c.fault = 0) := by
  have h2fs : (RB.runSt2 inp).fs = inp.fs := h2.fs
  have h2fa : (RB.runSt2 inp).faults = [] := h2.faults.trans hfa
  obtain ⟨e3, cf0⟩ := addExportPaths_idle inp.fs (RB.runSt2 inp) [] (RB.runTable0 inp) h2fs (CF.nil _)
  have e3 : ROExt (RB.runSt2 inp) (RB.runSt3 inp) := e3
  have h3fs : (RB.runSt3 inp).fs = inp.fs := e3.fs.trans h2fs
  have h3fa : (RB.runSt3 inp).faults = [] := e3.faults.trans h2fa
  have cf : CF inp.fs (RunQ.cacheOf inp) := by
    unfold RunQ.cacheOf
    rw [h3fs]
    exact scan_cf hwf _ _ cf0
  have hspec := populate_spec (RunQ.cacheOf inp) inp.searchObs (RB.runTable0 inp)
  have hsub := populate_searches_sub (RunQ.cacheOf inp) inp.searchObs (RB.runTable0 inp)
  have hrel := (populateSearches_rel (RunQ.cacheOf inp) inp.searchObs (RB.runTable0 inp)).2
  rcases RB.run_stages H inp hne with ⟨h, _⟩ | ⟨_, hr, h, _⟩ | ⟨_, _, hrun⟩
  · rw [hv] at h; cases h
  · rw [hflow hr] at h; cases h
  rw [hrun] at hwork hall ⊢
  rcases RB.runSolve_cases H (dedupTorrents (sortTorrents inp.torrents)) inp.order
    (populateSearches (RunQ.cacheOf inp) inp.searchObs (RB.runTable0 inp))
    with ⟨hnone, h⟩ | ⟨ws, ok, hws, h⟩ <;> rw [h] at hwork hall ⊢
  · obtain ⟨ws, hws⟩ := hwork
    rw [show convertPiecesToWork _ _ = none from hnone] at hws
    cases hws
  have hall : ∀ w ∈ ws, VerE H inp.fs w ∧ ∀ s ∈ w.segs, s.ent.isPad = false →
      ∃ i, inp.fs.look s.ent.fullTarget = .file i ∧ (inp.fs.content i).length = s.ent.fileLength := hall
  have hent := convertPiecesToWork_ent hws
  -- every piece of the run is found without touching anything
  have hP : ∀ w st, w ∈ ws → st.fs = inp.fs → st.faults = [] →
      (solvePiece H st w).2 = .found ∧ ROExt st (solvePiece H st w).1 := by
    intro w st hwm hsfs hsfa
    obtain ⟨hver, himg⟩ := hall w hwm
    apply solvePiece_idle
    · intro idx hidx
      rw [hsfa] at hidx
      cases hidx
    · intro seg hseg hpad
      obtain ⟨i, hlook, hlen⟩ := himg seg hseg hpad
      have het := hent w hwm seg hseg
      obtain ⟨e, he, s, hes⟩ := hrel seg.ent het
      have hpad0 : e.isPad = false := by rw [hes] at hpad; exact hpad
      have hlook0 : (RB.runSt2 inp).fs.look e.fullTarget = .file i := by rw [h2fs]; rw [hes] at hlook; exact hlook
      have hlen0 : ((RB.runSt2 inp).fs.content i).length = e.fileLength := by
        rw [h2fs]; rw [hes] at hlen; exact hlen
      obtain ⟨m, hm, k, hk⟩ := RunG.reg_scan
        (RunG.addExportPaths_registers (RB.runSt2 inp) h2fa [] (RB.runTable0 inp) e i he hpad0 hlook0 hlen0)
        (RB.runSt3 inp).fs (uniqueLengths (RB.runTable0 inp)) inp.scan
      have hm' : cacheGet (RunQ.cacheOf inp) seg.ent.fileLength = some m := by rw [hes]; exact hm
      have hk' : (seg.ent.fullTarget, k) ∈ m := by rw [hes]; exact hk
      have hki : k = i := by
        have := cf.get hm' _ hk'
        simp only at this
        rw [hlook] at this
        cases this
        rfl
      subst hki
      obtain ⟨paths, hps, hor⟩ := hspec seg.ent het hpad m hm'
      -- the segment lies inside the image
      have hle : seg.off + seg.len ≤ (inp.fs.content k).length := by
        obtain ⟨parts, hparts, _⟩ := hver
        obtain ⟨b, hb⟩ := mapM_some_all hparts seg hseg
        unfold segBytesIn at hb
        rw [hpad, hlook] at hb
        simp only [Bool.false_eq_true, if_false] at hb
        split at hb
        · assumption
        · cases hb
      rw [hsfs]
      rcases hor with hv | hc
      · have hhead := C04_export_first seg.ent m paths k hv hk' (fun x hx hxe => by
          have := cf.get hm' x hx
          rw [hxe, hlook] at this
          cases this
          rfl)
        cases paths with
        | nil => cases hhead
        | cons a rest =>
          simp only [List.head?_cons, Option.some.injEq] at hhead
          subst hhead
          exact ⟨rest, k, hps, hlook, hle⟩
      · obtain ⟨rest, hrest⟩ := canonicalSearches_head seg.ent m k hk'
        rw [hrest] at hc
        subst hc
        exact ⟨rest, k, hps, hlook, hle⟩
    · intro seg hseg paths hps p hp
      have het := hent w hwm seg hseg
      rw [hsfs]
      rcases hsub seg.ent het paths hps with ⟨e0, he0, h0⟩ | ⟨len, m, hm, hall'⟩
      · rw [buildTable_searches _ _ _ e0 he0] at h0
        cases h0
      · obtain ⟨i, hi⟩ := hall' p hp
        exact ⟨i, cf.get hm _ hi⟩
    · rw [hsfs]
      exact hver
  generalize hord : RunQ.evalOrder ws inp.order = ordered
  have hmem : ∀ w ∈ ordered, w ∈ ws := hord ▸ RB.evalOrder_mem
  have hlen : ordered.length = ws.length := hord ▸ RB.evalOrder_length ws inp.order
  obtain ⟨r1, r2, r3⟩ := solveAll_idle H (fun w => w ∈ ws) inp.fs hP ordered (RB.runSt3 inp) ⟨0, 0, 0⟩ [] hmem h3fs h3fa
  have hext : ROExt ⟨inp.fs, [], inp.faults⟩ (solveAll H (RB.runSt3 inp) ordered ⟨0, 0, 0⟩ []).1 := (h2.trans e3).trans r2
  refine ⟨?_, hext.fs, ?_, ?_⟩
  · show (if _ then Res.panic else Res.ok ()) = _
    rw [r1]
    rfl
  · obtain ⟨new, hnew, hmut⟩ := hext.ops
    show ∀ o ∈ (solveAll H (RB.runSt3 inp) ordered ⟨0, 0, 0⟩ []).1.ops, _
    rw [hnew]
    exact hmut
  · show ∀ c ∈ (solveAll H (RB.runSt3 inp) ordered ⟨0, 0, 0⟩ []).2.1.getLast?, c.success = ws.length ∧ _
    rw [← hlen]
    intro c hc
    rcases r3 with ⟨r3, rfl⟩ | r3
    · rw [r3] at hc
      cases hc
    · rw [r3] at hc
      simp only [Option.mem_def, Option.some.injEq] at hc
      subst hc
      simp

theorem run_table_cover (H : Bytes → Bytes) (inp : RunIn) (hne : inp.torrents ≠ []) (hv : RB.valOk inp = true) :
    ∀ e ∈ RB.runTable0 inp, ∃ e' ∈ (run H inp).table, UpToSearches e e' := by
  rcases RB.run_stages H inp hne with ⟨h, _⟩ | ⟨_, _, _, h⟩ | ⟨_, _, h⟩
  · rw [hv] at h; cases h
  · rw [h]
    exact fun e he => ⟨e, he, UpToSearches.refl e⟩
  · rw [h]
    rcases RB.runSolve_cases H (dedupTorrents (sortTorrents inp.torrents)) inp.order
      (populateSearches (RunQ.cacheOf inp) inp.searchObs (RB.runTable0 inp))
      with ⟨_, h⟩ | ⟨_, _, _, h⟩ <;> rw [h] <;> exact (populateSearches_rel _ _ _).1

end TB.RunI
