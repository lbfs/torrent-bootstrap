/-
  Chaining the run-level theorems into statements whose hypotheses speak of the torrents as
  loaded, of the initial tree and of the hash only (`TB.Props.TopLevel`).

  * Part A — transport between the tree-independent table / work list (`table0`, `work0`: no candidate lists) and the
    table / work list of an actual run (`(run H inp).table`, `.work`: candidate lists filled in from the tree). The
    layout facts mention `len`, `off`, `isPad`, `fullTarget`, `fileLength`, `hash` only, all kept by `strip`.
  * Part B — two more layout facts derived from `Loadable`: a zero-length segment belongs to an empty file (`hzero`
    of `C02_run_recovered`), and images are not nested if the paths of each torrent are prefix-free (`hnest`).
  * Part C — `AvailScan` is monotone in the tree, in the scan directories and (anti-monotone, up to images) in the table.
-/
import TB.Spec.ExportSpec
import TB.Props.C02chain
import TB.Props.C06layout
import TB.Props.C16total
import TB.Lemmas.RunR
import TB.Lemmas.RunT
namespace TB.RunV
open TB

theorem mem_strip_segs {w : Work} {s : WSeg} (h : s ∈ w.segs) : s.strip ∈ w.strip.segs :=
  List.mem_map_of_mem (f := WSeg.strip) h

theorem getElem?_strip_segs {w : Work} {a : Nat} {s : WSeg} (h : w.segs[a]? = some s) :
    w.strip.segs[a]? = some s.strip := by
  show (w.segs.map WSeg.strip)[a]? = some s.strip
  rw [List.getElem?_map, h]; rfl

theorem segsInRange_of_strip {w : Work} (h : SegsInRange w.strip) : SegsInRange w := by
  intro s hs
  exact h s.strip (mem_strip_segs hs)

theorem range_run (H : Bytes → Bytes) (inp : RunIn) (h : ∀ w ∈ work0 inp, SegsInRange w) :
    ∀ w ∈ (run H inp).work, SegsInRange w :=
  fun w hw => segsInRange_of_strip (h w.strip (RunR.run_work_strip_mem H inp w hw))

theorem same_run (H : Bytes → Bytes) (inp : RunIn) (h : RunJ.SameLen (table0 inp)) :
    RunJ.SameLen (run H inp).table := by
  intro e he f hf n1 n2 heq
  exact h e.strip (RunR.run_table_strip H inp e he) f.strip (RunR.run_table_strip H inp f hf) n1 n2 heq

theorem disj_run (H : Bytes → Bytes) (inp : RunIn) (h : RangesDisjoint (work0 inp)) :
    RangesDisjoint (run H inp).work := by
  rcases RunR.run_work_strip H inp with h0 | h0
  · rw [h0]
    exact ⟨fun a b w v ha => by simp at ha, fun w hw => by cases hw⟩
  · rw [h0] at h
    refine ⟨?_, ?_⟩
    · intro a b w v ha hb hab s hs t ht n1 n2 heq
      have ha' : ((run H inp).work.map Work.strip)[a]? = some w.strip := by rw [List.getElem?_map, ha]; rfl
      have hb' : ((run H inp).work.map Work.strip)[b]? = some v.strip := by rw [List.getElem?_map, hb]; rfl
      exact h.1 a b w.strip v.strip ha' hb' hab s.strip (mem_strip_segs hs) t.strip (mem_strip_segs ht) n1 n2 heq
    · intro w hw a b s t ha hb hab n1 n2
      exact h.2 w.strip (List.mem_map_of_mem hw) a b s.strip t.strip (getElem?_strip_segs ha)
        (getElem?_strip_segs hb) hab n1 n2

theorem hinj_run (H : Bytes → Bytes) (inp : RunIn) (h : HInjOn H (work0 inp)) : HInjOn H (run H inp).work :=
  fun w hw b b' h1 h2 => h w.strip (RunR.run_work_strip_mem H inp w hw) b b' h1 h2

theorem noAlias_run (H : Bytes → Bytes) (inp : RunIn) {fs : Fs} (h : NoAlias fs (table0 inp)) :
    NoAlias fs (run H inp).table := by
  intro e he hp q i h1 h2
  exact h e.strip (RunR.run_table_strip H inp e he) hp q i h1 h2

/-- the converse direction needs the run to have kept its table: the table of a run that evaluates pieces is
    `table0` with candidate lists filled in, so every entry of `table0` has a counterpart -/
theorem table0_covered (H : Bytes → Bytes) (inp : RunIn) (hw : (run H inp).work ≠ []) :
    ∀ e0 ∈ table0 inp, ∃ e ∈ (run H inp).table, e.strip = e0 := by
  intro e0 he0
  have F := RunQ.facts H inp hw
  obtain ⟨e, he, s, rfl⟩ := (populateSearches_rel (RunQ.cacheOf inp) inp.searchObs (RB.runTable0 inp)).1 e0 he0
  refine ⟨_, by rw [F.tab]; exact he, ?_⟩
  have hs : e0.searches = none := buildTable_searches _ _ _ e0 he0
  cases e0
  simp only [TEntry.strip] at *
  rw [hs]

theorem noAlias_table0_of_run (H : Bytes → Bytes) (inp : RunIn) (hw : (run H inp).work ≠ []) {fs : Fs}
    (h : NoAlias fs (run H inp).table) : NoAlias fs (table0 inp) := by
  intro e0 he0 hp q i h1 h2
  obtain ⟨e, he, rfl⟩ := table0_covered H inp hw e0 he0
  exact h e he hp q i h1 h2

/-- what `AvailScan` looks at in a work item -/
def avKey (w : Work) : List (Nat × Nat × Bool × Nat) × Bytes :=
  (w.segs.map (fun s => (s.len, s.off, s.ent.isPad, s.ent.fileLength)), w.hash)

theorem avKey_strip (w : Work) : avKey w.strip = avKey w := by
  unfold avKey Work.strip
  simp only [List.map_map]
  rfl

theorem avKey_seg {w w' : Work} (h : avKey w' = avKey w) {k : Nat} {s : WSeg} (hs : w.segs[k]? = some s) :
    ∃ s', w'.segs[k]? = some s' ∧ s'.len = s.len ∧ s'.off = s.off ∧ s'.ent.isPad = s.ent.isPad
      ∧ s'.ent.fileLength = s.ent.fileLength := by
  have h1 : w'.segs.map (fun s => (s.len, s.off, s.ent.isPad, s.ent.fileLength))
      = w.segs.map (fun s => (s.len, s.off, s.ent.isPad, s.ent.fileLength)) := congrArg Prod.fst h
  have h2 := congrArg (fun l => l[k]?) h1
  simp only [List.getElem?_map, hs, Option.map_some] at h2
  cases hs' : w'.segs[k]? with
  | none => rw [hs'] at h2; cases h2
  | some s' =>
    rw [hs'] at h2
    simp only [Option.map_some, Option.some.injEq, Prod.mk.injEq] at h2
    exact ⟨s', rfl, h2.1, h2.2.1, h2.2.2.1, h2.2.2.2⟩

theorem avail_congr {H : Bytes → Bytes} {fs : Fs} {scan : List PathArg} {table : List TEntry} {w w' : Work}
    (h : avKey w' = avKey w) (ha : AvailScan H fs scan table w) : AvailScan H fs scan table w' := by
  obtain ⟨parts, hl, hh, hp⟩ := ha
  have hlen : w'.segs.length = w.segs.length := by
    have := congrArg (fun x => x.1.length) h
    simpa [avKey] using this
  have hhash : w'.hash = w.hash := congrArg Prod.snd h
  refine ⟨parts, by rw [hl, hlen], by rw [hh, hhash], ?_⟩
  intro k s' part hk hpk
  obtain ⟨s, hs, e1, e2, e3, e4⟩ := avKey_seg h.symm hk
  have := hp k s part hs hpk
  rw [e1, e2, e3, e4] at this
  exact this

theorem avail_table_sub {H : Bytes → Bytes} {fs : Fs} {scan : List PathArg} {table table' : List TEntry} {w : Work}
    (hsub : ∀ e' ∈ table', e'.isPad = false → ∃ e ∈ table, e.isPad = false ∧ e.fullTarget = e'.fullTarget)
    (ha : AvailScan H fs scan table w) : AvailScan H fs scan table' w :=
  RunQ.Avail.mono (fun p i d hmem hd hout => ⟨hmem, hd, rfl, fun e' he' hpe' => by
    obtain ⟨e, he, hpe, heq⟩ := hsub e' he' hpe'
    rw [← heq]
    exact hout e he hpe⟩) ha

theorem avail_run (H : Bytes → Bytes) (inp : RunIn) {fs : Fs} {scan : List PathArg} {w : Work}
    (ha : AvailScan H fs scan (table0 inp) w) : AvailScan H fs scan (run H inp).table w :=
  avail_table_sub (fun e' he' hp => ⟨e'.strip, RunR.run_table_strip H inp e' he', hp, rfl⟩) ha

theorem avail_table0_of_run (H : Bytes → Bytes) (inp : RunIn) (hw : (run H inp).work ≠ []) {fs : Fs}
    {scan : List PathArg} {w : Work} (ha : AvailScan H fs scan (run H inp).table w) :
    AvailScan H fs scan (table0 inp) w := by
  refine avail_table_sub ?_ ha
  intro e0 he0 hp
  obtain ⟨e, he, rfl⟩ := table0_covered H inp hw e0 he0
  exact ⟨e, he, hp, rfl⟩

/-- a zero-length segment of a work item of a loadable torrent belongs to an empty file (third clause of the C06
    partition, `PieceOk`) -/
theorem workOfTorrent_zero (H : Bytes → Bytes) {dir : Path} {all : List Torrent} {id0 : Nat} {t : Torrent}
    (hd : RunT.HashDistinct all) (ht : t ∈ all) (hload : Loadable H t) {wt : List Work}
    (h : workOfTorrent (buildTable dir all id0) t = some wt) :
    ∀ w ∈ wt, ∀ x ∈ w.segs, x.len = 0 → x.ent.fileLength = 0 := by
  obtain ⟨ps, hlay, _, hrel⟩ := RunT.workOfTorrent_rel H hd ht hload h
  intro w hw x hx hx0
  obtain ⟨i, hi⟩ := RunT.mem_index hw
  obtain ⟨p, hp, hwr⟩ := hrel i w hi
  obtain ⟨s, hs, hr⟩ := hwr.mem hx
  rcases hlay with rfl | ⟨fl, _, _, _, hok, hfl⟩
  · simp at hp
  · obtain ⟨hi', rfl⟩ := List.getElem?_eq_some_iff.1 hp
    obtain ⟨hs1, _, hs3⟩ := (hok i hi').2.2.2.2.1 s hs
    rw [RunT.segRel_flen hfl hs1 hr]
    exact hs3 (by rw [← hr.1]; exact hx0)

theorem convert_zero (H : Bytes → Bytes) {dir : Path} {all : List Torrent} {id0 : Nat} (hd : RunT.HashDistinct all)
    {ts : List Torrent} (hsub : ∀ t ∈ ts, t ∈ all) (hload : ∀ t ∈ ts, Loadable H t) {ws : List Work}
    (h : convertPiecesToWork (buildTable dir all id0) ts = some ws) :
    ∀ w ∈ ws, ∀ x ∈ w.segs, x.len = 0 → x.ent.fileLength = 0 := by
  intro w hw
  obtain ⟨t, ht, wt, hwt, hwin⟩ := RunH.convert_mem h w hw
  exact workOfTorrent_zero H hd (hsub t ht) (hload t ht) hwt w hwin

theorem mem_run_torrents {ts : List Torrent} {t : Torrent} (h : t ∈ dedupTorrents (sortTorrents ts)) :
    t ∈ ts := (RB.mem_sortTorrents _ _).1 (RB.dedupTorrents_mem _ t h)

theorem zero_work0 (H : Bytes → Bytes) (inp : RunIn) (hload : ∀ t ∈ inp.torrents, Loadable H t) :
    ∀ w ∈ work0 inp, ∀ s ∈ w.segs, s.len = 0 → s.ent.fileLength = 0 := by
  unfold work0
  cases h : convertPiecesToWork (table0 inp) (dedupTorrents (sortTorrents inp.torrents)) with
  | none => intro w hw; cases hw
  | some ws =>
    exact convert_zero H (RunT.hashDistinct_dedup_sort inp.torrents) (fun _ ht => ht)
      (fun t ht => hload t (mem_run_torrents ht)) h

theorem zero_run (H : Bytes → Bytes) (inp : RunIn) (hload : ∀ t ∈ inp.torrents, Loadable H t) :
    ∀ w ∈ (run H inp).work, ∀ s ∈ w.segs, s.len = 0 → s.ent.fileLength = 0 :=
  fun w hw s hs h0 => zero_work0 H inp hload w.strip (RunR.run_work_strip_mem H inp w hw) s.strip (mem_strip_segs hs) h0

/-- within torrent `t`, the path of a non-padding file is not a prefix of the path of another non-padding file
    (in particular the two paths differ) -/
def PrefixFree (t : Torrent) : Prop :=
  ∀ fs, t.info.files = some fs → ∀ (i j : Nat) (f g : FileRec), fs[i]? = some f → fs[j]? = some g → i ≠ j →
    isPaddingPath f.path = false → isPaddingPath g.path = false → ¬ f.path <+: g.path

theorem PrefixFree.distinct {t : Torrent} (h : PrefixFree t) : RunT.PathsDistinct t := by
  intro fs hfs i j f g hi hj hij n1 n2 he
  exact h fs hfs i j f g hi hj hij n1 n2 (by rw [he]; exact List.prefix_refl _)

theorem prefix_of_properPrefix {p q : Path} (h : q ∈ Fs.properPrefixes p) : q <+: p := by
  obtain ⟨n, _, _, rfl⟩ := RunF.mem_properPrefixes.1 h
  exact List.take_prefix n p

theorem target_not_nested {dir : Path} {t : Torrent} {e₁ e₂ : TEntry} (hp : PrefixFree t)
    (h₁ : IsTargetOf dir t e₁) (h₂ : IsTargetOf dir t e₂) (n₁ : e₁.isPad = false) (n₂ : e₂.isPad = false) :
    e₁.fullTarget ∉ Fs.properPrefixes e₂.fullTarget := by
  intro hmem
  have hne := RunF.properPrefix_ne hmem
  have hpre := prefix_of_properPrefix hmem
  obtain ⟨_, ⟨l₁, hn₁, _, _, _, _, ht₁⟩ | ⟨fs₁, f, hf₁, hi₁, _, hp₁, ht₁⟩⟩ := h₁
  · obtain ⟨_, ⟨l₂, _, _, _, _, _, ht₂⟩ | ⟨fs₂, g, hf₂, _⟩⟩ := h₂
    · exact hne (ht₁.trans ht₂.symm)
    · rw [hn₁] at hf₂; cases hf₂
  · obtain ⟨_, ⟨l₂, hn₂, _⟩ | ⟨fs₂, g, hf₂, hi₂, _, hp₂, ht₂⟩⟩ := h₂
    · rw [hn₂] at hf₁; cases hf₁
    · rw [hf₁] at hf₂
      cases hf₂
      by_cases hidx : e₁.fileIndex = e₂.fileIndex
      · rw [hidx, hi₂] at hi₁
        cases hi₁
        exact hne (ht₁.trans ht₂.symm)
      · rw [ht₁, ht₂] at hpre
        exact hp fs₁ hf₁ _ _ f g hi₁ hi₂ hidx (by rw [← hp₁]; exact n₁) (by rw [← hp₂]; exact n₂)
          ((List.prefix_append_right_inj _).1 hpre)

/-- no export image of a non-padding entry of the table is a proper prefix of another one: different torrents of the
    table have different info-hashes, hence export roots that differ in one component; inside one torrent by
    `PrefixFree` -/
theorem table_not_nested {dir : Path} {all : List Torrent} {id0 : Nat} (hd : RunT.HashDistinct all)
    (hpf : ∀ t ∈ all, PrefixFree t) :
    ∀ e ∈ buildTable dir all id0, ∀ f ∈ buildTable dir all id0, e.isPad = false → f.isPad = false →
      e.fullTarget ∉ Fs.properPrefixes f.fullTarget := by
  intro e he f hf n1 n2 hmem
  obtain ⟨t₁, ht₁, h₁⟩ := buildTable_target dir all id0 e he
  obtain ⟨t₂, ht₂, h₂⟩ := buildTable_target dir all id0 f hf
  by_cases hh : t₁.infoHash = t₂.infoHash
  · have := hd.eq ht₁ ht₂ hh
    subst this
    exact target_not_nested (hpf t₁ ht₁) h₁ h₂ n1 n2 hmem
  · obtain ⟨rest, hr⟩ := prefix_of_properPrefix hmem
    exact IsTargetOf.disjoint h₁ h₂ hh ⟨rest, hr.symm⟩

/-- `hnest` of `C02_run_no_fault`, in the form used for `table0` and for the table of a run -/
def NotNested (table : List TEntry) : Prop :=
  ∀ e ∈ table, ∀ f ∈ table, e.isPad = false → f.isPad = false → e.fullTarget ∉ Fs.properPrefixes f.fullTarget

theorem notNested_table0 (inp : RunIn) (hpf : ∀ t ∈ inp.torrents, PrefixFree t) : NotNested (table0 inp) :=
  table_not_nested (RunT.hashDistinct_dedup_sort inp.torrents) (fun t ht => hpf t (mem_run_torrents ht))

theorem nest_run (H : Bytes → Bytes) (inp : RunIn) (hnn : NotNested (table0 inp)) {w : Work}
    (hw : w ∈ (run H inp).work) :
    ∀ s ∈ w.segs, s.ent.isPad = false → ∀ e ∈ (run H inp).table, e.isPad = false →
      e.fullTarget ∉ Fs.properPrefixes s.ent.fullTarget ∧ s.ent.fullTarget ∉ Fs.properPrefixes e.fullTarget := by
  intro s hs hp e he hpe
  have h1 := RunR.run_table_strip H inp _ (RunK.run_work_ent H inp w hw s hs)
  have h2 := RunR.run_table_strip H inp e he
  exact ⟨hnn e.strip h2 s.ent.strip h1 hpe hp, hnn s.ent.strip h1 e.strip h2 hp hpe⟩

theorem avail_tree_mono {H : Bytes → Bytes} {fs fs' : Fs} {scan scan' : List PathArg} {table : List TEntry}
    {w : Work}
    (hfiles : ∀ p i, (p, i) ∈ fs.files → (p, i) ∈ fs'.files)
    (hcont : ∀ p i, (p, i) ∈ fs.files → fs'.content i = fs.content i)
    (hscan : ∀ d ∈ scan, d ∈ scan')
    (hnew : ∀ e ∈ table, e.isPad = false → ∀ i, fs'.inoOf e.fullTarget = some i → (∃ p, (p, i) ∈ fs.files) →
      fs.inoOf e.fullTarget = some i)
    (ha : AvailScan H fs scan table w) : AvailScan H fs' scan' table w :=
  RunQ.Avail.mono (fun p i d hmem hd hout => ⟨hfiles p i hmem, hscan d hd, hcont p i hmem,
    fun e he hpe hi => hout e he hpe (hnew e he hpe i hi ⟨p, hmem⟩)⟩) ha

theorem target_same_image {dir : Path} {t : Torrent} {e₁ e₂ : TEntry}
    (h₁ : IsTargetOf dir t e₁) (h₂ : IsTargetOf dir t e₂) (hidx : e₁.fileIndex = e₂.fileIndex) :
    e₁.fullTarget = e₂.fullTarget ∧ e₁.isPad = e₂.isPad := by
  obtain ⟨_, ⟨l₁, hn₁, _, _, _, hq₁, ht₁⟩ | ⟨fs₁, f, hf₁, hi₁, _, hq₁, ht₁⟩⟩ := h₁
  · obtain ⟨_, ⟨l₂, _, _, _, _, hq₂, ht₂⟩ | ⟨fs₂, g, hf₂, _⟩⟩ := h₂
    · exact ⟨ht₁.trans ht₂.symm, hq₁.trans hq₂.symm⟩
    · rw [hn₁] at hf₂; cases hf₂
  · obtain ⟨_, ⟨l₂, hn₂, _⟩ | ⟨fs₂, g, hf₂, hi₂, _, hq₂, ht₂⟩⟩ := h₂
    · rw [hn₂] at hf₁; cases hf₁
    · rw [hf₁] at hf₂
      cases hf₂
      rw [hidx, hi₂] at hi₁
      cases hi₁
      exact ⟨ht₁.trans ht₂.symm, hq₁.trans hq₂.symm⟩

theorem table_has_image {dir : Path} {all : List Torrent} {id0 : Nat} (hd : RunT.HashDistinct all) {t : Torrent}
    (ht : t ∈ all) {e' : TEntry} (h' : IsTargetOf dir t e') :
    ∃ e ∈ buildTable dir all id0, e.fullTarget = e'.fullTarget ∧ e.isPad = e'.isPad := by
  have hc := RunH.buildTable_complete dir all id0 t ht
  have key : ∃ e ∈ buildTable dir all id0, e.infoHash = t.infoHash ∧ e.fileIndex = e'.fileIndex := by
    rcases h'.2 with ⟨l, hn, hl, hi, _⟩ | ⟨fs, f, hf, hi, _⟩
    · rw [hi]; exact hc.1 l hn hl
    · exact hc.2 fs hf _ (List.getElem?_eq_some_iff.1 hi).1
  obtain ⟨e, he, hih, hidx⟩ := key
  obtain ⟨t'', ht'', h''⟩ := buildTable_target dir all id0 e he
  have : t'' = t := hd.eq ht'' ht (h''.1.symm.trans hih)
  subst this
  exact ⟨e, he, target_same_image h'' h' hidx⟩

theorem table0_images_sub {inp inp' : RunIn} (hdir : inp'.exportDir.path = inp.exportDir.path)
    (hsub : ∀ t ∈ dedupTorrents (sortTorrents inp'.torrents), t ∈ dedupTorrents (sortTorrents inp.torrents)) :
    ∀ e' ∈ table0 inp', e'.isPad = false → ∃ e ∈ table0 inp, e.isPad = false ∧ e.fullTarget = e'.fullTarget := by
  intro e' he' hp
  unfold table0 at he'
  rw [hdir] at he'
  obtain ⟨t, ht, h'⟩ := buildTable_target _ _ _ e' he'
  obtain ⟨e, he, h1, h2⟩ := table_has_image (id0 := 0) (RunT.hashDistinct_dedup_sort inp.torrents) (hsub t ht) h'
  exact ⟨e, he, by rw [h2]; exact hp, h1⟩

/-- a sufficient condition for `hsub` of `table0_images_sub`: the smaller list is contained in the larger one, and
    the larger one has pairwise distinct info-hashes -/
theorem kept_of_subset {ts ts' : List Torrent} (hsub : ∀ t ∈ ts', t ∈ ts)
    (hd : ts.Pairwise (fun a b => a.infoHash ≠ b.infoHash)) :
    ∀ t ∈ dedupTorrents (sortTorrents ts'), t ∈ dedupTorrents (sortTorrents ts) := by
  intro t ht
  have h1 : t ∈ ts := hsub t (mem_run_torrents ht)
  obtain ⟨u, hu, he⟩ := RB.dedupTorrents_cover _ t ((RB.mem_sortTorrents ts t).2 h1)
  have : u = t := RunT.HashDistinct.eq hd (mem_run_torrents hu) h1 he
  rw [← this]
  exact hu

end TB.RunV
