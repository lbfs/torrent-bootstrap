/-
  The whole run: table with searches, work items, evaluation order, the log up to the solver (`runSt1/2/3_trace`),
  and what every run satisfies (`run_inv`).
-/
import TB.Lemmas.RunB
import TB.Lemmas.RunATable
namespace TB

def UpToSearches (e e' : TEntry) : Prop := ∃ s, e' = { e with searches := s }

theorem UpToSearches.refl (e : TEntry) : UpToSearches e e := ⟨e.searches, rfl⟩

theorem populateSearches_rel (c : Cache) (obs : List (Nat × List Path)) (es : List TEntry) :
    (∀ e ∈ es, ∃ e' ∈ (populateSearches c obs es).1, UpToSearches e e')
    ∧ (∀ e' ∈ (populateSearches c obs es).1, ∃ e ∈ es, UpToSearches e e') := by
  induction es with
  | nil => simp [populateSearches]
  | cons e es ih =>
    have key : ∀ (e' : TEntry), UpToSearches e e' →
        (∀ x ∈ e :: es, ∃ x' ∈ e' :: (populateSearches c obs es).1, UpToSearches x x')
        ∧ (∀ x' ∈ e' :: (populateSearches c obs es).1, ∃ x ∈ e :: es, UpToSearches x x') := by
      intro e' he
      constructor
      · intro x hx
        rcases List.mem_cons.1 hx with rfl | hx
        · exact ⟨e', List.mem_cons_self, he⟩
        · obtain ⟨x', hx', h⟩ := ih.1 x hx
          exact ⟨x', List.mem_cons_of_mem _ hx', h⟩
      · intro x' hx'
        rcases List.mem_cons.1 hx' with rfl | hx'
        · exact ⟨e, List.mem_cons_self, he⟩
        · obtain ⟨x, hx, h⟩ := ih.2 x' hx'
          exact ⟨x, List.mem_cons_of_mem _ hx, h⟩
    unfold populateSearches
    rcases hrest : populateSearches c obs es with ⟨rest, okRest⟩
    rw [hrest] at key
    simp only []
    split
    · exact key e (UpToSearches.refl e)
    split
    · exact key e (UpToSearches.refl e)
    split
    · split
      · exact key _ ⟨_, rfl⟩
      · exact key _ ⟨_, rfl⟩
    · exact key _ ⟨_, rfl⟩

theorem UpToSearches.isTargetOf {exportDir : Path} {t : Torrent} {e e' : TEntry} (h : UpToSearches e e')
    (ht : IsTargetOf exportDir t e) : IsTargetOf exportDir t e' := by
  obtain ⟨s, rfl⟩ := h
  exact ht

theorem workOfPiece_ent {table : List TEntry} {t : Torrent} {p : Piece} {w : Work}
    (h : workOfPiece table t p = some w) : ∀ seg ∈ w.segs, seg.ent ∈ table := by
  unfold workOfPiece at h
  split at h
  · rename_i segs hm
    cases h
    intro seg hseg
    obtain ⟨s, _, hs⟩ := mapM_option_mem hm seg hseg
    simp only [lookupEntry, Option.map_eq_some_iff] at hs
    obtain ⟨e, he, rfl⟩ := hs
    exact List.mem_of_find?_eq_some he
  · cases h

theorem workOfTorrent_ent {table : List TEntry} {t : Torrent} {ws : List Work}
    (h : workOfTorrent table t = some ws) : ∀ w ∈ ws, ∀ seg ∈ w.segs, seg.ent ∈ table := by
  unfold workOfTorrent at h
  split at h
  · cases h
  · intro w hw
    obtain ⟨p, _, hp⟩ := mapM_option_mem h w hw
    exact workOfPiece_ent hp

theorem convertPiecesToWork_ent {table : List TEntry} {ts : List Torrent} {ws : List Work}
    (h : convertPiecesToWork table ts = some ws) : ∀ w ∈ ws, ∀ seg ∈ w.segs, seg.ent ∈ table := by
  induction ts generalizing ws with
  | nil => simp [convertPiecesToWork] at h; subst h; intro w hw; cases hw
  | cons t ts ih =>
    unfold convertPiecesToWork at h
    split at h
    · rename_i a b ha hb
      cases h
      intro w hw
      rcases List.mem_append.1 hw with hw | hw
      · exact workOfTorrent_ent ha w hw
      · exact ih hb w hw
    · cases h

open RB in
theorem runSt1_trace (inp : RunIn) : Trace (SetupOp (runTable0 inp)) ⟨inp.fs, [], inp.faults⟩ (runSt1 inp) :=
  (validateAll_trace _ _).mono fun _ h => Or.inl h

open RB in
theorem runSt2_trace (inp : RunIn) : Trace (SetupOp (runTable0 inp)) ⟨inp.fs, [], inp.faults⟩ (runSt2 inp) := by
  unfold runSt2
  split
  · exact (runSt1_trace inp).trans (fixExportFileLengths_trace _ _)
  · exact runSt1_trace inp

open RB in
theorem runSt3_trace (inp : RunIn) : Trace (SetupOp (runTable0 inp)) ⟨inp.fs, [], inp.faults⟩ (runSt3 inp) :=
  (runSt2_trace inp).trans ((addExportPaths_trace _ _ _).mono fun _ h => Or.inr (Or.inl h))

/-- what every run satisfies -/
def RunInv (H : Bytes → Bytes) (inp : RunIn) (out : RunOut) : Prop :=
  (∀ e' ∈ out.table, ∃ e ∈ buildTable inp.exportDir.path (dedupTorrents (sortTorrents inp.torrents)) 0,
      UpToSearches e e')
  ∧ (∀ o ∈ out.ops, SetupOp out.table o
      ∨ ∃ w ∈ out.work, PieceOp H w o ∧ ∀ seg ∈ w.segs, seg.ent ∈ out.table)

theorem RzOp.transfer {t0 t : List TEntry} {o : Op} (h : RzOp t0 o)
    (ht : ∀ e ∈ t0, ∃ e' ∈ t, UpToSearches e e') : RzOp t o := by
  obtain ⟨e, he, h1, h2, h3⟩ := h
  obtain ⟨e', he', s, rfl⟩ := ht e he
  exact ⟨_, he', h1, h2, h3⟩

theorem SetupOp.transfer {t0 t : List TEntry} {o : Op} (h : SetupOp t0 o)
    (ht : ∀ e ∈ t0, ∃ e' ∈ t, UpToSearches e e') : SetupOp t o := by
  rcases h with h | h | h
  · exact Or.inl h
  · exact Or.inr (Or.inl h)
  · exact Or.inr (Or.inr (h.transfer ht))

theorem Ext.from_empty {P : Op → Prop} {a b : St} (h : Ext P a b) (ha : a.ops = []) : ∀ o ∈ b.ops, P o := by
  intro o ho
  rcases h.mem_ops o ho with h | h
  · rw [ha] at h; cases h
  · exact h

open RB in
theorem run_inv (H : Bytes → Bytes) (inp : RunIn) : RunInv H inp (run H inp) := by
  by_cases hne : inp.torrents = []
  · rw [run_nil H inp hne]
    exact ⟨by simp, by simp⟩
  rcases run_stages H inp hne with ⟨_, h⟩ | ⟨_, hr, _, h⟩ | ⟨_, _, h⟩ <;> rw [h]
  · exact ⟨by simp, fun o ho => Or.inl (Or.inl ((validateAll_trace _ _).ext.from_empty rfl o ho))⟩
  · refine ⟨fun e he => ⟨e, he, UpToSearches.refl e⟩, fun o ho => Or.inl ?_⟩
    have e2 : (fixRes inp).1 = runSt2 inp := by simp [runSt2, fixRes, hr]
    rw [e2] at ho
    exact (runSt2_trace inp).ext.from_empty rfl o ho
  · have hpop := populateSearches_rel (RunQ.cacheOf inp) inp.searchObs (runTable0 inp)
    have hsetup : ∀ o ∈ (runSt3 inp).ops, SetupOp (populateSearches (RunQ.cacheOf inp) inp.searchObs (runTable0 inp)).1 o :=
      fun o ho => ((runSt3_trace inp).ext.from_empty rfl o ho).transfer hpop.1
    rcases runSolve_cases H (dedupTorrents (sortTorrents inp.torrents)) inp.order
        (populateSearches (RunQ.cacheOf inp) inp.searchObs (runTable0 inp)) with ⟨_, h⟩ | ⟨work, ok, hwork, h⟩ <;>
      rw [h]
    · exact ⟨hpop.2, fun o ho => Or.inl (hsetup o ho)⟩
    · refine ⟨hpop.2, fun o ho => ?_⟩
      rcases (solveAll_trace H (runSt3 inp) _ _ _).ext.mem_ops o ho with h | ⟨w, hw, h⟩
      · exact Or.inl (hsetup o h)
      · exact Or.inr ⟨w, evalOrder_mem w hw, h, convertPiecesToWork_ent hwork w (evalOrder_mem w hw)⟩

end TB
