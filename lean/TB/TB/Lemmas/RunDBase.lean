/-
  File-system algebra, contents: `set_len` and positional writes as functions `sl`, `wr` on byte strings, read
  position by position (`sl_get`, `wr_get`: everything else about them is extensionality plus these two); `look` and
  `content` under `setData`, `setLen`, `writeAt`. Names and directories are in `RunF`.
-/
import TB.Lemmas.RunBase
namespace TB.RunX
open TB

/-- `set_len` on a byte string -/
def sl (n : Nat) (c : Bytes) : Bytes := if n ≤ c.length then c.take n else c ++ List.replicate (n - c.length) 0
/-- positional write on a byte string -/
def wr (off : Nat) (bs : Bytes) (c : Bytes) : Bytes :=
  let c' := if off ≤ c.length then c else c ++ List.replicate (off - c.length) 0
  c'.take off ++ bs ++ c'.drop (off + bs.length)

theorem setLen_eq (fs : Fs) (i n : Nat) : fs.setLen i n = fs.setData i (sl n (fs.content i)) := rfl
theorem writeAt_eq (fs : Fs) (i off : Nat) (d : Bytes) : fs.writeAt i off d = fs.setData i (wr off d (fs.content i)) := rfl

theorem some_getD {d : Bytes} {j : Nat} (h : j < d.length) : some (d[j]?.getD 0) = d[j]? := by
  rw [List.getElem?_eq_getElem h]; rfl

theorem getD_cases {c : Bytes} {k : Nat} {x : UInt8} (h : some (c[k]?.getD 0) = some x) :
    c[k]? = some x ∨ (x = 0 ∧ c.length ≤ k) := by
  by_cases hk : k < c.length
  · exact Or.inl (some_getD hk ▸ h)
  · rw [List.getElem?_eq_none (Nat.le_of_not_lt hk)] at h
    exact Or.inr ⟨(Option.some.inj h).symm, Nat.le_of_not_lt hk⟩

/-- `c`, zero-filled up to length `n` if shorter (the first step of both `sl` and `wr`), position by position -/
theorem pad_get (n : Nat) (c : Bytes) (k : Nat) :
    (if n ≤ c.length then c else c ++ List.replicate (n - c.length) 0)[k]?
      = if k < max n c.length then some (c[k]?.getD 0) else none := by
  split
  · rw [Nat.max_eq_right ‹_›]
    by_cases h : k < c.length
    · rw [if_pos h, some_getD h]
    · rw [if_neg h, List.getElem?_eq_none (Nat.le_of_not_lt h)]
  · rename_i hn
    rw [Nat.max_eq_left (Nat.le_of_not_le hn), List.getElem?_append, List.getElem?_replicate]
    by_cases h : k < c.length
    · rw [if_pos h, if_pos (Nat.lt_trans h (Nat.lt_of_not_le hn)), some_getD h]
    · rw [if_neg h, List.getElem?_eq_none (Nat.le_of_not_lt h)]
      by_cases h2 : k < n
      · rw [if_pos h2, if_pos (Nat.sub_lt_sub_right (Nat.le_of_not_lt h) h2)]; rfl
      · rw [if_neg h2, if_neg (by omega)]

theorem pad_length (n : Nat) (c : Bytes) :
    (if n ≤ c.length then c else c ++ List.replicate (n - c.length) 0).length = max n c.length := by
  split
  · rw [Nat.max_eq_right ‹_›]
  · rw [List.length_append, List.length_replicate, Nat.max_eq_left (Nat.le_of_not_le ‹_›),
      Nat.add_sub_cancel' (Nat.le_of_not_le ‹_›)]

theorem getElem?_write {α : Type} (c a : List α) (off : Nat) (hoff : off ≤ c.length) (k : Nat) :
    (c.take off ++ a ++ c.drop (off + a.length))[k]?
      = if k < off then c[k]? else if k < off + a.length then a[k - off]? else c[k]? := by
  have hl : (c.take off).length = off := by rw [List.length_take]; omega
  rw [List.getElem?_append, List.length_append, hl]
  by_cases h1 : k < off
  · rw [if_pos (by omega), if_pos h1, List.getElem?_append, hl, if_pos h1, List.getElem?_take, if_pos h1]
  · rw [if_neg h1]
    by_cases h2 : k < off + a.length
    · rw [if_pos h2, if_pos h2, List.getElem?_append, hl, if_neg h1]
    · rw [if_neg h2, if_neg h2, List.getElem?_drop]
      congr 1
      omega

theorem sl_length (n : Nat) (c : Bytes) : (sl n c).length = n := by
  unfold sl
  split
  · rw [List.length_take, Nat.min_eq_left ‹_›]
  · rw [List.length_append, List.length_replicate, Nat.add_sub_cancel' (Nat.le_of_not_le ‹_›)]

theorem sl_get (n : Nat) (c : Bytes) (k : Nat) : (sl n c)[k]? = if k < n then some (c[k]?.getD 0) else none := by
  unfold sl
  split
  · rw [List.getElem?_take]
    by_cases h : k < n
    · rw [if_pos h, if_pos h, some_getD (Nat.lt_of_lt_of_le h ‹_›)]
    · rw [if_neg h, if_neg h]
  · rename_i hn
    have := pad_get n c k
    rwa [if_neg hn, Nat.max_eq_left (Nat.le_of_not_le hn)] at this

theorem wr_length (off : Nat) (d c : Bytes) : (wr off d c).length = max c.length (off + d.length) := by
  show (List.take _ _ ++ _ ++ List.drop _ _).length = _
  rw [List.length_append, List.length_append, List.length_take_of_le (by rw [pad_length]; exact Nat.le_max_left _ _),
    List.length_drop, pad_length]
  rcases Nat.le_total off c.length with h | h
  · rw [Nat.max_eq_right h]
    rcases Nat.le_total c.length (off + d.length) with g | g
    · rw [Nat.max_eq_right g, Nat.sub_eq_zero_of_le g]; rfl
    · rw [Nat.max_eq_left g, Nat.add_sub_cancel' g]
  · rw [Nat.max_eq_left h, Nat.sub_eq_zero_of_le (Nat.le_add_right _ _),
      Nat.max_eq_right (Nat.le_trans h (Nat.le_add_right _ _))]; rfl

theorem wr_get (off : Nat) (d c : Bytes) (k : Nat) :
    (wr off d c)[k]? = if k < off then some (c[k]?.getD 0) else if k < off + d.length then d[k - off]? else c[k]? := by
  show (List.take _ _ ++ _ ++ List.drop _ _)[k]? = _
  rw [getElem?_write _ _ _ (by rw [pad_length]; exact Nat.le_max_left _ _), pad_get]
  by_cases h1 : k < off
  · rw [if_pos h1, if_pos h1, if_pos (Nat.lt_of_lt_of_le h1 (Nat.le_max_left _ _))]
  · rw [if_neg h1, if_neg h1]
    by_cases h2 : k < off + d.length
    · rw [if_pos h2, if_pos h2]
    · rw [if_neg h2, if_neg h2]
      by_cases h3 : k < c.length
      · rw [if_pos (Nat.lt_of_lt_of_le h3 (Nat.le_max_right _ _)), some_getD h3]
      · rw [if_neg (by omega), List.getElem?_eq_none (Nat.le_of_not_lt h3)]

theorem sl_of_length (n : Nat) (c : Bytes) (h : c.length = n) : sl n c = c := by
  unfold sl; rw [if_pos (by omega), ← h, List.take_length]

theorem sl_idem (n : Nat) (c : Bytes) : sl n (sl n c) = sl n c := sl_of_length _ _ (sl_length n c)

theorem wr_comm (o1 o2 : Nat) (d1 d2 c : Bytes) (h : o1 + d1.length ≤ o2 ∨ o2 + d2.length ≤ o1) :
    wr o1 d1 (wr o2 d2 c) = wr o2 d2 (wr o1 d1 c) := by
  have one : ∀ (o1 o2 : Nat) (d1 d2 : Bytes), o1 + d1.length ≤ o2 → wr o1 d1 (wr o2 d2 c) = wr o2 d2 (wr o1 d1 c) := by
    intro o1 o2 d1 d2 h
    apply List.ext_getElem?
    intro k
    simp only [wr_get]
    by_cases h1 : k < o1
    · simp only [if_pos h1, if_pos (show k < o2 by omega), Option.getD_some]
    · by_cases h2 : k < o1 + d1.length
      · simp only [if_neg h1, if_pos h2, if_pos (show k < o2 by omega), some_getD (show k - o1 < d1.length by omega)]
      · by_cases h3 : k < o2
        · simp only [if_neg h1, if_neg h2, if_pos h3, Option.getD_some]
        · simp only [if_neg h1, if_neg h2, if_neg h3]
  rcases h with h | h
  · exact one _ _ _ _ h
  · exact (one _ _ _ _ h).symm

theorem sl_wr_comm (n off : Nat) (d c : Bytes) (h : off + d.length ≤ n) :
    sl n (wr off d c) = wr off d (sl n c) := by
  apply List.ext_getElem?
  intro k
  simp only [wr_get, sl_get]
  by_cases h2 : k < n
  · simp only [if_pos h2, Option.getD_some]
    by_cases h1 : k < off
    · simp only [if_pos h1, Option.getD_some]
    · by_cases h3 : k < off + d.length
      · simp only [if_neg h1, if_pos h3, some_getD (show k - off < d.length by omega)]
      · simp only [if_neg h1, if_neg h3]
  · simp only [if_neg h2, if_neg (show ¬ k < off by omega), if_neg (show ¬ k < off + d.length by omega)]

theorem wr_append (off : Nat) (a b c : Bytes) : wr (off + a.length) b (wr off a c) = wr off (a ++ b) c := by
  apply List.ext_getElem?
  intro k
  simp only [wr_get, List.length_append]
  by_cases h1 : k < off
  · simp only [if_pos h1, if_pos (show k < off + a.length by omega), Option.getD_some]
  · by_cases h2 : k < off + a.length
    · simp only [if_neg h1, if_pos h2, if_pos (show k < off + (a.length + b.length) by omega),
        some_getD (show k - off < a.length by omega), List.getElem?_append_left (show k - off < a.length by omega)]
    · by_cases h3 : k < off + a.length + b.length
      · simp only [if_neg h1, if_neg h2, if_pos h3, if_pos (show k < off + (a.length + b.length) by omega),
          List.getElem?_append_right (show a.length ≤ k - off by omega)]
        congr 1; omega
      · simp only [if_neg h1, if_neg h2, if_neg h3, if_neg (show ¬ k < off + (a.length + b.length) by omega)]

end TB.RunX

namespace TB.RD

theorem Fs.look_setData (fs : Fs) (i : Nat) (bs : Bytes) (p : Path) : (fs.setData i bs).look p = fs.look p := rfl
theorem Fs.look_setLen (fs : Fs) (i n : Nat) (p : Path) : (fs.setLen i n).look p = fs.look p := rfl
theorem Fs.look_writeAt (fs : Fs) (i off : Nat) (d : Bytes) (p : Path) : (fs.writeAt i off d).look p = fs.look p := rfl

theorem Fs.content_setData (fs : Fs) (i : Nat) (bs : Bytes) : (fs.setData i bs).content i = bs := by
  simp [Fs.content, Fs.setData]

theorem find?_filter_ne {α : Type} (l : List (Nat × α)) (i j : Nat) (h : j ≠ i) :
    (l.filter (fun e => e.1 != i)).find? (fun e => e.1 == j) = l.find? (fun e => e.1 == j) := by
  rw [List.find?_filter]
  congr 1
  funext e
  cases h2 : e.1 == j
  · simp
  · simpa [beq_iff_eq.1 h2] using h

theorem Fs.content_setData_ne (fs : Fs) (i j : Nat) (bs : Bytes) (h : j ≠ i) :
    (fs.setData i bs).content j = fs.content j := by
  have : (i == j) = false := by simp; exact fun e => h e.symm
  simp only [Fs.content, Fs.setData, List.find?, this, find?_filter_ne _ _ _ h]

theorem Fs.content_setLen (fs : Fs) (i n : Nat) : (fs.setLen i n).content i = RunX.sl n (fs.content i) :=
  Fs.content_setData _ _ _

theorem Fs.content_writeAt (fs : Fs) (i off : Nat) (d : Bytes) :
    (fs.writeAt i off d).content i = RunX.wr off d (fs.content i) :=
  Fs.content_setData _ _ _

theorem Fs.content_setLen_length (fs : Fs) (i n : Nat) : ((fs.setLen i n).content i).length = n := by
  rw [Fs.content_setLen, RunX.sl_length]

theorem Fs.content_writeAt_length (fs : Fs) (i off : Nat) (d : Bytes) :
    ((fs.writeAt i off d).content i).length = max (fs.content i).length (off + d.length) := by
  rw [Fs.content_writeAt, RunX.wr_length]

theorem Fs.readAt_writeAt (fs : Fs) (i off : Nat) (d : Bytes) : (fs.writeAt i off d).readAt i off d.length = d := by
  unfold Fs.readAt
  rw [Fs.content_writeAt]
  apply List.ext_getElem?
  intro j
  rw [List.getElem?_take]
  split
  · rw [List.getElem?_drop, RunX.wr_get, if_neg (by omega), if_pos (by omega), Nat.add_sub_cancel_left]
  · rw [List.getElem?_eq_none (Nat.le_of_not_lt ‹_›)]

end TB.RD
