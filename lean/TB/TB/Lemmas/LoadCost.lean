/-
  The step bound of the loader (C09loadcost).
  A weight `tokSize` of token trees (bytes of the strings + 2 per node, 3 per integer) is at most the length of
  the encoding, hence (C08 soundness) at most the length of the decoded input.
  `*_spec`: every step-counting loader function returns what the original model function returns, and a count
  that is paid by the weight of the dictionary / list it works on.
-/
import TB.Spec.LoadCost
import TB.Lemmas.Cost
import TB.Lemmas.Torrent
namespace TB.LoadCostL
open TB TB.Cost TB.LoadCost

/-! ### the weight of a token tree -/

mutual
/-- weight of a token tree: bytes of its strings, 2 per string / list / dictionary node, 3 per integer -/
def tokSize : Tok → Nat
  | .str t => t.val.length + 2
  | .int _ _ _ => 3
  | .list items _ _ => listSize items + 2
  | .dict ks vs _ _ => dictSize ks vs + 2
def listSize : List Tok → Nat
  | [] => 0
  | t :: ts => tokSize t + listSize ts
/-- only the zipped part counts, as in `find_value` and `erase` -/
def dictSize : List StrTok → List Tok → Nat
  | k :: ks, v :: vs => (k.val.length + 2) + tokSize v + dictSize ks vs
  | _, _ => 0
end

theorem encodeStr_length (s : Bytes) : s.length + 2 ≤ (encodeStr s).length := by
  have := natDigits_length_pos s.length
  simp only [encodeStr, List.length_append, List.length_cons, List.length_nil]
  omega

theorem encodeInt_length (v : Int) : 3 ≤ (encodeInt v).length := by
  have := natDigits_length_pos v.natAbs
  unfold encodeInt
  split <;> simp only [List.length_append, List.length_cons, List.length_nil] <;> omega

mutual
theorem tokSize_le : ∀ t : Tok, tokSize t ≤ (encode (erase t)).length
  | .str t => by simp only [tokSize, erase, encode]; exact encodeStr_length _
  | .int v _ _ => by simp only [tokSize, erase, encode]; exact encodeInt_length _
  | .list items _ _ => by
    have := listSize_le items
    simp only [tokSize, erase, encode, List.length_append, List.length_cons, List.length_nil]
    omega
  | .dict ks vs _ _ => by
    have := dictSize_le ks vs
    simp only [tokSize, erase, encode, List.length_append, List.length_cons, List.length_nil]
    omega
theorem listSize_le : ∀ ts : List Tok, listSize ts ≤ (encodeList (eraseList ts)).length
  | [] => by simp [listSize]
  | t :: ts => by
    have h1 := tokSize_le t
    have h2 := listSize_le ts
    simp only [listSize, eraseList, encodeList, List.length_append]
    omega
theorem dictSize_le : ∀ (ks : List StrTok) (vs : List Tok), dictSize ks vs ≤ (encodeDict (eraseDict ks vs)).length
  | [], _ => by simp [dictSize]
  | _ :: _, [] => by simp [dictSize]
  | k :: ks, v :: vs => by
    have h1 := tokSize_le v
    have h2 := dictSize_le ks vs
    have h3 := encodeStr_length k.val
    simp only [dictSize, eraseDict, encodeDict, List.length_append]
    omega
end

/-- the weight of an accepted tree is at most the length of the input -/
theorem tokSize_le_input {inp : Bytes} {t : Tok} (h : decode inp = .ok t) : tokSize t ≤ inp.length := by
  have := (C08_sound inp t h).2.1
  rw [← this]
  exact tokSize_le t

/-- a value found in a dictionary weighs (with its key) at most the dictionary -/
theorem findValue_size : ∀ (ks : List StrTok) (vs : List Tok) (key : Bytes) (t : Tok),
    findValue ks vs key = some t → tokSize t + 2 ≤ dictSize ks vs := by
  intro ks
  induction ks with
  | nil => intro vs key t h; simp [findValue] at h
  | cons k ks ih =>
    intro vs key t h
    rcases vs with _ | ⟨v, vs⟩
    · simp [findValue] at h
    · simp only [findValue] at h
      simp only [dictSize]
      split at h
      · cases h; omega
      · have := ih vs key t h; omega

theorem findList_size {ks : List StrTok} {vs : List Tok} {key : Bytes} {items : List Tok}
    (h : findList ks vs key = some items) : listSize items + 4 ≤ dictSize ks vs := by
  unfold findList at h
  cases hv : findValue ks vs key with
  | none => rw [hv] at h; cases h
  | some t =>
    rw [hv] at h
    cases t with
    | list l s c =>
      cases h
      have := findValue_size ks vs key _ hv
      rw [tokSize] at this
      omega
    | _ => cases h

theorem findStr_size {ks : List StrTok} {vs : List Tok} {key : Bytes} {x : Bytes}
    (h : findStr ks vs key = some x) : x.length + 4 ≤ dictSize ks vs := by
  unfold findStr at h
  cases hv : findValue ks vs key with
  | none => rw [hv] at h; cases h
  | some t =>
    rw [hv] at h
    cases t with
    | str t =>
      cases h
      have := findValue_size ks vs key _ hv
      rw [tokSize] at this
      omega
    | _ => cases h

theorem findDict_size {ks : List StrTok} {vs : List Tok} {key : Bytes} {r : List StrTok × List Tok × Nat × Nat}
    (h : findDict ks vs key = some r) : dictSize r.1 r.2.1 + 4 ≤ dictSize ks vs := by
  have := findValue_size ks vs key _ (findDict_eq_some.1 h)
  simp only [tokSize] at this
  omega

/-! ### the counting copies

Each `fC x` is shown to be `(f x, n)` for some count `n` within the bound; where a later bound needs it, the
weight of what `f x` returns is bounded in the same pass. -/

/-- what a specification `∃ n, fC x = (f x, n) ∧ …` says about the first component -/
theorem fst_of_counted {α : Type} {p : α × Nat} {a : α} {P : Nat → Prop} (h : ∃ n, p = (a, n) ∧ P n) : p.1 = a := by
  obtain ⟨n, rfl, _⟩ := h; rfl

theorem eqCost_le (a b : Bytes) : eqCost a b ≤ a.length + 1 := by
  unfold eqCost; omega

/-- a lookup is paid by the keys it walks over -/
theorem findValueC_spec : ∀ (ks : List StrTok) (vs : List Tok) (key : Bytes),
    ∃ n, findValueC ks vs key = (findValue ks vs key, n) ∧ n ≤ dictSize ks vs + 1 := by
  intro ks
  induction ks with
  | nil => intro vs key; exact ⟨1, rfl, by omega⟩
  | cons k ks ih =>
    intro vs key
    rcases vs with _ | ⟨v, vs⟩
    · exact ⟨1, rfl, by omega⟩
    · obtain ⟨n, h, hn⟩ := ih vs key
      have := eqCost_le k.val key
      rw [findValueC, findValue, dictSize, h]
      by_cases hk : k.val = key
      · rw [if_pos hk, if_pos hk]; exact ⟨_, rfl, by omega⟩
      · rw [if_neg hk, if_neg hk]; exact ⟨_, rfl, by omega⟩

theorem findDictC_spec (ks : List StrTok) (vs : List Tok) (key : Bytes) :
    ∃ n, findDictC ks vs key = (findDict ks vs key, n) ∧ n ≤ dictSize ks vs + 1 := by
  obtain ⟨n, h, hn⟩ := findValueC_spec ks vs key
  unfold findDictC findDict
  rw [h]
  cases findValue ks vs key with
  | none => exact ⟨n, rfl, hn⟩
  | some t => cases t <;> exact ⟨n, rfl, hn⟩

theorem findListC_spec (ks : List StrTok) (vs : List Tok) (key : Bytes) :
    ∃ n, findListC ks vs key = (findList ks vs key, n) ∧ n ≤ dictSize ks vs + 1 := by
  obtain ⟨n, h, hn⟩ := findValueC_spec ks vs key
  unfold findListC findList
  rw [h]
  cases findValue ks vs key with
  | none => exact ⟨n, rfl, hn⟩
  | some t => cases t <;> exact ⟨n, rfl, hn⟩

theorem findIntC_spec (ks : List StrTok) (vs : List Tok) (key : Bytes) :
    ∃ n, findIntC ks vs key = (findInt ks vs key, n) ∧ n ≤ dictSize ks vs + 1 := by
  obtain ⟨n, h, hn⟩ := findValueC_spec ks vs key
  unfold findIntC findInt
  rw [h]
  cases findValue ks vs key with
  | none => exact ⟨n, rfl, hn⟩
  | some t => cases t <;> exact ⟨n, rfl, hn⟩

theorem findStrC_spec (ks : List StrTok) (vs : List Tok) (key : Bytes) :
    ∃ n, findStrC ks vs key = (findStr ks vs key, n) ∧ n ≤ dictSize ks vs + 1 := by
  obtain ⟨n, h, hn⟩ := findValueC_spec ks vs key
  unfold findStrC findStr
  rw [h]
  cases findValue ks vs key with
  | none => exact ⟨n, rfl, hn⟩
  | some t => cases t <;> exact ⟨n, rfl, hn⟩

theorem chunks20C_spec : ∀ (n : Nat) (bs : Bytes),
    ∃ c, chunks20C n bs = (chunks20 n bs, c) ∧ c ≤ 2 * bs.length + 1 := by
  intro n
  induction n with
  | zero => intro bs; exact ⟨1, rfl, by omega⟩
  | succ n ih =>
    intro bs
    obtain ⟨c, h, hc⟩ := ih (bs.drop 20)
    rw [chunks20C, chunks20, h]
    cases bs with
    | nil => exact ⟨1, rfl, by omega⟩
    | cons b r =>
      refine ⟨_, rfl, ?_⟩
      simp only [List.length_drop, List.length_take, List.length_cons] at hc ⊢
      omega

/-- weight of a list of strings: one per string plus its bytes -/
def strsSize : List Bytes → Nat
  | [] => 0
  | s :: r => s.length + 1 + strsSize r

theorem pathStringsC_spec : ∀ items : List Tok,
    ∃ n, pathStringsC items = (pathStrings items, n) ∧ n ≤ listSize items + 1 ∧
      ∀ ps, pathStrings items = some ps → strsSize ps ≤ listSize items
  | [] => ⟨1, rfl, by omega, fun ps h => by cases h; exact Nat.le_refl _⟩
  | .str t :: rest => by
    obtain ⟨n, h, hn, hs⟩ := pathStringsC_spec rest
    rw [pathStringsC, pathStrings, h, listSize, tokSize]
    by_cases hu : utf8Valid t.val = true
    · rw [if_pos hu, if_pos hu]
      cases hp : pathStrings rest with
      | none => exact ⟨_, rfl, by unfold compCost; omega, nofun⟩
      | some ps =>
        refine ⟨_, rfl, by unfold compCost; omega, fun ps' h' => ?_⟩
        cases h'
        have := hs ps hp
        rw [strsSize]; omega
    · rw [if_neg hu, if_neg hu]
      exact ⟨_, rfl, by unfold compCost; omega, nofun⟩
  | .int .. :: _ => ⟨1, rfl, by omega, nofun⟩
  | .list .. :: _ => ⟨1, rfl, by omega, nofun⟩
  | .dict .. :: _ => ⟨1, rfl, by omega, nofun⟩

theorem allPlainC_spec : ∀ ps : List Bytes,
    ∃ n, allPlainC ps = (ps.all plainComponent, n) ∧ n ≤ strsSize ps + 1
  | [] => ⟨1, rfl, by omega⟩
  | s :: rest => by
    obtain ⟨n, h, hn⟩ := allPlainC_spec rest
    rw [allPlainC, h, List.all_cons, strsSize]
    cases plainComponent s with
    | true => exact ⟨_, rfl, by unfold compCost; omega⟩
    | false => exact ⟨_, rfl, by unfold compCost; omega⟩

/-- one file record: three lookups and two passes over the path, all paid by the record's dictionary -/
theorem evaluateFileC_spec (ks : List StrTok) (vs : List Tok) :
    ∃ n, evaluateFileC ks vs = (evaluateFile ks vs, n) ∧ n ≤ 5 * dictSize ks vs + 4 := by
  obtain ⟨n1, h1, c1⟩ := findIntC_spec ks vs kLength
  obtain ⟨n2, h2, c2⟩ := findListC_spec ks vs kPathUtf8
  obtain ⟨n3, h3, c3⟩ := findListC_spec ks vs kPath
  unfold evaluateFileC evaluateFile
  rw [h1, h2, h3]
  extract_lets q pathsC paths
  have hp : ∃ m, pathsC = (paths, m) ∧ m ≤ n2 + n3 ∧
      ∀ {l}, paths = some l → listSize l + 4 ≤ dictSize ks vs := by
    simp only [pathsC, paths, q]
    cases h : findList ks vs kPathUtf8 with
    | none => exact ⟨_, rfl, Nat.le_refl _, findList_size⟩
    | some l => exact ⟨_, rfl, by omega, fun h' => findList_size (h.trans h')⟩
  clear_value pathsC paths
  obtain ⟨m, rfl, hm, hsz⟩ := hp
  cases findInt ks vs kLength with
  | none => exact ⟨_, rfl, by omega⟩
  | some lv =>
  dsimp only
  cases toU64 lv with
  | none => exact ⟨_, rfl, by omega⟩
  | some len =>
  dsimp only
  cases paths with
  | none => exact ⟨_, rfl, by omega⟩
  | some items =>
  have hitems := hsz rfl
  obtain ⟨k, hk, hkle, hps⟩ := pathStringsC_spec items
  dsimp only
  rw [hk]
  cases hq : pathStrings items with
  | none => exact ⟨_, rfl, by omega⟩
  | some ps =>
  have hps := hps ps hq
  obtain ⟨a, ha, hale⟩ := allPlainC_spec ps
  dsimp only
  rw [ha]
  cases ps.isEmpty with
  | true => exact ⟨_, rfl, by omega⟩
  | false =>
  cases ps.all plainComponent with
  | true => exact ⟨_, rfl, by omega⟩
  | false => exact ⟨_, rfl, by omega⟩

theorem evaluateFilesC_spec : ∀ items : List Tok,
    ∃ n, evaluateFilesC items = (evaluateFiles items, n) ∧ n ≤ 5 * listSize items + 1 ∧
      ∀ fs, evaluateFiles items = .ok fs → 2 * fs.length ≤ listSize items
  | [] => ⟨1, rfl, by omega, fun fs h => by cases h; exact Nat.le_refl _⟩
  | .dict ks vs _ _ :: rest => by
    obtain ⟨n, h, hn⟩ := evaluateFileC_spec ks vs
    obtain ⟨m, h', hm, hfs⟩ := evaluateFilesC_spec rest
    rw [evaluateFilesC, evaluateFiles, h, h', listSize, tokSize]
    cases evaluateFile ks vs with
    | err => exact ⟨_, rfl, by omega, nofun⟩
    | panic => exact ⟨_, rfl, by omega, nofun⟩
    | ok f =>
      cases hr : evaluateFiles rest with
      | err => exact ⟨_, rfl, by omega, nofun⟩
      | panic => exact ⟨_, rfl, by omega, nofun⟩
      | ok fs =>
        refine ⟨_, rfl, by omega, fun fs' h'' => ?_⟩
        cases h''
        have := hfs fs hr
        rw [List.length_cons]; omega
  | .str .. :: _ => ⟨1, rfl, by omega, nofun⟩
  | .int .. :: _ => ⟨1, rfl, by omega, nofun⟩
  | .list .. :: _ => ⟨1, rfl, by omega, nofun⟩

theorem chunks20_length : ∀ (n : Nat) (bs : Bytes), 20 * (chunks20 n bs).length ≤ bs.length + 19 := by
  intro n
  induction n with
  | zero => intro bs; simp [chunks20]
  | succ n ih =>
    intro bs
    simp only [chunks20]
    split
    · simp
    · rename_i hne
      have h1 := ih (bs.drop 20)
      have h2 : 0 < bs.length := by
        rcases bs with _ | ⟨b, r⟩
        · simp at hne
        · simp
      simp only [List.length_drop, List.length_cons] at h1 ⊢
      omega

/-- a refusal after `m ≤ b` steps meets every specification of the form used for `evaluateInfoC` -/
theorem counted_err {α : Type} {P : α → Prop} {m b : Nat} (h : m ≤ b) :
    ∃ n, ((Res.err : Res α), m) = (Res.err, n) ∧ n ≤ b ∧ ∀ a, Res.err = Res.ok a → P a :=
  ⟨m, rfl, h, nofun⟩

/-- `evaluate_info`: at most six lookups, two passes over the name, the hash split, the file records — all paid by
    the weight `D` of the info dictionary; an accepted record has at most `(D + 15) / 20` hashes and `(D - 4) / 2`
    files -/
theorem evaluateInfoC_spec (ks : List StrTok) (vs : List Tok) :
    ∃ n, evaluateInfoC ks vs = (evaluateInfo ks vs, n) ∧ n ≤ 16 * dictSize ks vs + 12 ∧
      ∀ info, evaluateInfo ks vs = .ok info →
        20 * info.pieces.length ≤ dictSize ks vs + 15 ∧ 2 * (info.files.getD []).length + 4 ≤ dictSize ks vs := by
  obtain ⟨n1, h1, c1⟩ := findStrC_spec ks vs kNameUtf8
  obtain ⟨n2, h2, c2⟩ := findStrC_spec ks vs kName
  obtain ⟨n3, h3, c3⟩ := findStrC_spec ks vs kPieces
  obtain ⟨n4, h4, c4⟩ := findIntC_spec ks vs kPieceLength
  obtain ⟨n5, h5, c5⟩ := findIntC_spec ks vs kLength
  obtain ⟨n6, h6, c6⟩ := findListC_spec ks vs kFiles
  unfold evaluateInfoC evaluateInfo
  rw [h1, h2, h3, h4, h5, h6]
  extract_lets q nameC lengthC filesC name length files
  have hn : ∃ c0, nameC = (name, c0) ∧ c0 ≤ n1 + n2 ∧
      ∀ {x}, name = some x → x.length + 4 ≤ dictSize ks vs := by
    simp only [nameC, name, q]
    cases h : findStr ks vs kNameUtf8 with
    | none => exact ⟨_, rfl, Nat.le_refl _, findStr_size⟩
    | some x => exact ⟨_, rfl, by omega, fun h' => findStr_size (h.trans h')⟩
  clear_value nameC name
  obtain ⟨c0, rfl, hc0, hname⟩ := hn
  cases name with
  | none => exact counted_err (by omega)
  | some name =>
  have hname := hname rfl
  have hcc : compCost name = name.length + 1 := rfl
  dsimp only [lengthC, filesC, length, files]
  by_cases hu : (!utf8Valid name) = true
  · rw [if_pos hu, if_pos hu]; exact counted_err (by omega)
  rw [if_neg hu, if_neg hu]
  by_cases hp : (!plainComponent name) = true
  · rw [if_pos hp, if_pos hp]; exact counted_err (by omega)
  rw [if_neg hp, if_neg hp]
  -- the steps so far as one number with one bound: at every later leaf `omega` is several times cheaper on it
  -- than on the facts it comes from
  generalize ha : c0 + compCost name + compCost name = a
  replace ha : a ≤ 4 * dictSize ks vs := by omega
  clear hc0 c1 c2 hname hcc
  cases h3 : findStr ks vs kPieces with
  | none => exact counted_err (by omega)
  | some pieces =>
  have hpieces := findStr_size h3
  have hhashes := chunks20_length (pieces.length / 20 + 1) pieces
  obtain ⟨ch, h, hch⟩ := chunks20C_spec (pieces.length / 20 + 1) pieces
  dsimp only
  rw [h]
  by_cases hm : (pieces.length % 20 != 0) = true
  · rw [if_pos hm, if_pos hm]; exact counted_err (by omega)
  rw [if_neg hm, if_neg hm]
  generalize ha' : a + n3 + 1 + ch = a'
  replace ha' : a' ≤ 7 * dictSize ks vs := by omega
  clear ha c3 hch h
  cases findInt ks vs kPieceLength with
  | none => exact counted_err (by omega)
  | some plv =>
  dsimp only
  cases toU64 plv with
  | none => exact counted_err (by omega)
  | some pl =>
  dsimp only
  generalize ha'' : a' + n4 + 1 + n5 + n6 = a''
  replace ha'' : a'' ≤ 10 * dictSize ks vs + 4 := by omega
  clear ha' c4 c5 c6
  cases findInt ks vs kLength with
  | none =>
    cases h6 : findList ks vs kFiles with
    | none => exact counted_err (by omega)
    | some items =>
      have hitems := findList_size h6
      obtain ⟨c7, h7, hc7, hlen⟩ := evaluateFilesC_spec items
      dsimp only
      rw [h7]
      cases hfs : evaluateFiles items with
      | err => exact counted_err (by omega)
      | panic => exact ⟨_, rfl, by omega, nofun⟩
      | ok fs =>
        have hlen := hlen fs hfs
        dsimp only
        cases fs.isEmpty with
        | true => exact counted_err (by omega)
        | false =>
          cases pieceCountOk ((fs.map (·.length)).sum) pl (chunks20 (pieces.length / 20 + 1) pieces).length with
          | false => exact counted_err (by omega)
          | true =>
            refine ⟨_, rfl, by omega, fun info hi => ?_⟩
            cases hi
            dsimp only [Option.getD_some]
            omega
  | some lv =>
    cases findList ks vs kFiles with
    | some items => exact counted_err (by omega)
    | none =>
      dsimp only
      cases toU64 lv with
      | none => exact counted_err (by omega)
      | some l =>
        dsimp only
        cases pieceCountOk l pl (chunks20 (pieces.length / 20 + 1) pieces).length with
        | false => exact counted_err (by omega)
        | true =>
          refine ⟨_, rfl, by omega, fun info hi => ?_⟩
          cases hi
          dsimp only [Option.getD_none, List.length_nil]
          omega

theorem sliceRes_length {inp : Bytes} {a b : Nat} {x : Bytes} (h : sliceRes inp a b = .ok x) :
    x.length ≤ inp.length := by
  unfold sliceRes at h
  split at h
  · simp only [Res.ok.injEq] at h
    subst h
    simp only [List.length_take, List.length_drop]; omega
  · cases h

/-- `load`: decoder (2·len + 2), root lookup (≤ len), info record (≤ 16·len), hashing the info slice (≤ len) -/
theorem loadC_spec (H : Bytes → Bytes) (inp : Bytes) :
    ∃ n, loadC H inp = (load H inp, n) ∧ n ≤ 20 * inp.length + 2 := by
  obtain ⟨n, hn, hd⟩ := decodeC_spec inp
  unfold loadC load
  rw [hn]
  cases hr : decode inp with
  | err => exact ⟨_, rfl, by omega⟩
  | panic => exact ⟨_, rfl, by omega⟩
  | ok t =>
  have hsz := tokSize_le_input hr
  cases t with
  | str t => exact ⟨_, rfl, by omega⟩
  | int v s c => exact ⟨_, rfl, by omega⟩
  | list l s c => exact ⟨_, rfl, by omega⟩
  | dict rks rvs s0 c0 =>
  obtain ⟨m, hm, hmle⟩ := findDictC_spec rks rvs kInfo
  rw [tokSize] at hsz
  dsimp only
  rw [hm]
  cases hfd : findDict rks rvs kInfo with
  | none => exact ⟨_, rfl, by omega⟩
  | some r =>
  obtain ⟨iks, ivs, s, c⟩ := r
  have hsz2 := findDict_size hfd
  obtain ⟨k, hk, hkle, _⟩ := evaluateInfoC_spec iks ivs
  dsimp only at hsz2 ⊢
  rw [hk]
  cases hs : sliceRes inp s c with
  | err => exact ⟨_, rfl, by omega⟩
  | panic => exact ⟨_, rfl, by omega⟩
  | ok ib =>
  have hlen := sliceRes_length hs
  cases evaluateInfo iks ivs with
  | err => exact ⟨_, rfl, by omega⟩
  | panic => exact ⟨_, rfl, by omega⟩
  | ok info => exact ⟨_, rfl, by omega⟩

/-- an accepted torrent has at most `len / 20` hashes and `len / 2` files (for the end-to-end bound: loader + layout) -/
theorem load_sizes {H : Bytes → Bytes} {inp : Bytes} {T : Torrent} (h : load H inp = .ok T) :
    20 * T.info.pieces.length + 2 * (T.info.files.getD []).length ≤ 2 * inp.length := by
  obtain ⟨rks, rvs, s0, c0, iks, ivs, s, c, info, hd, _, _, hf, _, _, _, hs, hT⟩ := load_ok_struct h
  have h1 := tokSize_le_input hd
  have h2 := findValue_size rks rvs kInfo _ hf
  obtain ⟨_, _, _, h3⟩ := evaluateInfoC_spec iks ivs
  have h3 := h3 info ((evaluateInfo_ok_iff iks ivs info).2 hs)
  subst hT
  simp only [tokSize] at h1 h2
  simp only []
  omega

end TB.LoadCostL
