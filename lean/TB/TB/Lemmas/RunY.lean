/-
  The run-level OUTCOME of the model (`TB.Props.Outcome`).

  * Part A — the resize pre-flight as a function of the tree: `stop1` / `stop2` say at which entry the first / the
    second pass stops; without faults `resizePass1` stops exactly at the first `stop1` entry and changes nothing,
    `resizePass2` stops exactly at the first `stop2` entry and the tree it leaves is `RunN.step` folded over the entries
    before it. With ANY fault set a `stop1` entry makes the first pass fail and a `stop2` entry makes the second pass
    fail (a fault can only make either pass fail EARLIER).
  * Part B — `foldl RunN.step`: names, directories and the inode counter are kept, contents only grow by zeros.
  * Part C — what a run returns by the outcome of validation and of the pre-flight (corollaries of `RB.run_stages`).
  * Part D — the bookkeeping fields of a run (the progress records: `RunY.solveAll_records` in `TB.Props.C15`).
-/
import TB.Spec.ExportSpec
import TB.Lemmas.RunB
import TB.Lemmas.RunC
import TB.Lemmas.RunN
import TB.Lemmas.RunS
namespace TB.RunY
open TB TB.RB

/-- the first pass stops (with an error) at this entry: a non-padding entry whose image path has a regular file as a
    proper prefix (`ENOTDIR` on the read-only open), or whose image is a regular file longer than declared -/
def stop1 (fs : Fs) (e : TEntry) : Bool :=
  !e.isPad && (match fs.look e.fullTarget with
    | .notDir => true
    | .file i => decide ((fs.content i).length > e.fileLength)
    | _ => false)

/-- the second pass stops (with an error) at this entry: a non-padding entry whose image path has a regular file as a
    proper prefix (`ENOTDIR`) or IS A DIRECTORY (`EISDIR` on the read+write open) -/
def stop2 (fs : Fs) (e : TEntry) : Bool :=
  !e.isPad && (match fs.look e.fullTarget with | .notDir => true | .dir => true | _ => false)

theorem stop2_iff (fs : Fs) (e : TEntry) :
    stop2 fs e = true ↔ (e.isPad = false ∧ (fs.look e.fullTarget = .notDir ∨ fs.look e.fullTarget = .dir)) := by
  unfold stop2
  cases hp : e.isPad
  · cases hl : fs.look e.fullTarget <;> simp
  · simp

theorem stop2_congr {fs fs0 : Fs} (h1 : fs.files = fs0.files) (h2 : fs.dirs = fs0.dirs) (e : TEntry) :
    stop2 fs e = stop2 fs0 e := by
  unfold stop2
  rw [RunF.look_congr h1 h2]

theorem pass1_roext (st : St) (es : List TEntry) : RC.ROExt st (resizePass1 st es).1 :=
  RC.ROExt.of_trace (resizePass1_trace st es) fun _ h => by rw [h]; rfl

theorem pass1_cons_nf (st : St) (hf : st.faults = []) (e : TEntry) (es : List TEntry) :
    resizePass1 st (e :: es) =
      if stop1 st.fs e then ((st.openr e.fullTarget).1, .error)
      else resizePass1 (if e.isPad then st else (st.openr e.fullTarget).1) es := by
  rw [resizePass1_cons]
  have hv := RunN.openr_val st hf e.fullTarget
  have hfs := St.openr_fs st e.fullTarget
  cases hp : e.isPad
  · cases hl : st.fs.look e.fullTarget <;> simp [stop1, hp, hl, hf, hfs] at hv ⊢ <;> simp [hv]
  · simp [stop1, hp]

theorem pass1_error_iff (es : List TEntry) : ∀ st : St, st.faults = [] →
    ((resizePass1 st es).2 = .error ↔ ∃ e ∈ es, stop1 st.fs e = true) := by
  induction es with
  | nil => intro st _; simp [resizePass1]
  | cons e es ih =>
    intro st hf
    rw [pass1_cons_nf st hf]
    cases hs : stop1 st.fs e
    · simp only [Bool.false_eq_true, if_false]
      have hst : (if e.isPad then st else (st.openr e.fullTarget).1).faults = [] ∧
          (if e.isPad then st else (st.openr e.fullTarget).1).fs = st.fs := by
        split
        · exact ⟨hf, rfl⟩
        · exact ⟨(St.openr_faults st _).trans hf, St.openr_fs st _⟩
      rw [ih _ hst.1, hst.2]
      simp [hs]
    · simp [hs]

/-- ANY fault set: a `stop1` entry makes the first pass fail (at that entry or earlier) -/
theorem pass1_detects (st : St) (table : List TEntry)
    (h : ∃ e ∈ table, stop1 st.fs e = true) : (resizePass1 st table).2 = .error := by
  induction table generalizing st with
  | nil => obtain ⟨e, he, _⟩ := h; cases he
  | cons e es ih =>
    obtain ⟨x, hx, hov⟩ := h
    rcases List.mem_cons.1 hx with rfl | hx
    · rw [resizePass1_cons]
      unfold stop1 at hov
      cases hp : x.isPad
      · rw [hp] at hov
        simp only [Bool.false_eq_true, if_false]
        cases hok : (st.openr x.fullTarget).2
        · cases hl : st.fs.look x.fullTarget <;> rw [hl] at hov <;> simp at hov ⊢
        · obtain ⟨_, _, hn⟩ := St.op_ok (st := st) (k := .openr) (p := x.fullTarget) (Prod.ext rfl hok)
          cases hl : st.fs.look x.fullTarget <;> rw [hl] at hov hn <;> simp at hov hn ⊢
          rw [St.openr_fs]
          simp [hov]
      · rw [hp] at hov; simp at hov
    · have ih1 := ih st ⟨x, hx, hov⟩
      have ih2 := ih (st.openr e.fullTarget).1 ⟨x, hx, by rw [St.openr_fs]; exact hov⟩
      rcases resizePass1_cases st e es with h | h | h <;> rw [h]
      · exact ih1
      · exact ih2

theorem setLen_files (fs : Fs) (i n : Nat) : (fs.setLen i n).files = fs.files := rfl
theorem setLen_dirs (fs : Fs) (i n : Nat) : (fs.setLen i n).dirs = fs.dirs := rfl
theorem setLen_next (fs : Fs) (i n : Nat) : (fs.setLen i n).next = fs.next := rfl

theorem op_setlen_frame (st : St) (p : Path) (i n : Nat) :
    (st.op (.setlen n) p (fun fs => (fs.setLen i n, true))).1.fs.files = st.fs.files ∧
    (st.op (.setlen n) p (fun fs => (fs.setLen i n, true))).1.fs.dirs = st.fs.dirs := by
  cases h : st.faults.contains st.ops.length
  · rw [St.op_nofault _ _ _ h]; exact ⟨rfl, rfl⟩
  · rw [St.op_fault _ _ _ h]; exact ⟨rfl, rfl⟩

theorem pass2_step_any (st : St) (e : TEntry) (es : List TEntry) :
    ∃ st', (resizePass2 st (e :: es) = resizePass2 st' es ∨ resizePass2 st (e :: es) = (st', .error)) ∧
      st'.fs.files = st.fs.files ∧ st'.fs.dirs = st.fs.dirs ∧
      (stop2 st.fs e = true → resizePass2 st (e :: es) = (st', .error)) := by
  rw [resizePass2_cons]
  have hfs := RunN.openrw_fs st e.fullTarget
  cases hp : e.isPad
  · simp only [Bool.false_eq_true, if_false]
    cases hok : (st.op .openrw e.fullTarget (natOpenrw e.fullTarget)).2
    · simp only [Bool.not_false, if_true]
      split
      · rename_i hc
        refine ⟨_, .inl rfl, by rw [hfs], by rw [hfs], fun hs => ?_⟩
        exfalso
        unfold stop2 at hs
        cases hl : st.fs.look e.fullTarget <;> rw [hl] at hs hc <;> simp [hp] at hs hc
      · exact ⟨_, .inr rfl, by rw [hfs], by rw [hfs], fun _ => rfl⟩
    · simp only [Bool.not_true, Bool.false_eq_true, if_false]
      obtain ⟨_, _, hn⟩ := St.op_ok (st := st) (k := .openrw) (p := e.fullTarget) (Prod.ext rfl hok)
      cases hl : st.fs.look e.fullTarget with
      | file i =>
        simp only
        have hs2 : stop2 st.fs e = false := by simp [stop2, hl]
        obtain ⟨f1, f2⟩ := op_setlen_frame (st.op .openrw e.fullTarget (natOpenrw e.fullTarget)).1 e.fullTarget i e.fileLength
        rw [hfs] at f1 f2
        split
        · split
          · exact ⟨_, .inl rfl, f1, f2, fun h => by rw [hs2] at h; cases h⟩
          · exact ⟨_, .inr rfl, f1, f2, fun _ => rfl⟩
        · exact ⟨_, .inl rfl, by rw [hfs], by rw [hfs], fun h => by rw [hs2] at h; cases h⟩
      | notFound => simp [natOpenrw, hl] at hn
      | notDir => simp [natOpenrw, hl] at hn
      | dir => simp [natOpenrw, hl] at hn
  · refine ⟨st, .inl (by simp), rfl, rfl, fun h => ?_⟩
    simp [stop2, hp] at h

/-- ANY fault set: a `stop2` entry makes the second pass fail (at that entry or earlier) -/
theorem pass2_detects (table : List TEntry) : ∀ st : St,
    (∃ e ∈ table, stop2 st.fs e = true) → (resizePass2 st table).2 = .error := by
  induction table with
  | nil => intro st h; obtain ⟨e, he, _⟩ := h; cases he
  | cons e es ih =>
    intro st h
    obtain ⟨x, hx, hs⟩ := h
    obtain ⟨st', hor, hf, hd, hstop⟩ := pass2_step_any st e es
    rcases List.mem_cons.1 hx with rfl | hx
    · rw [hstop hs]
    · rcases hor with h | h <;> rw [h]
      exact ih st' ⟨x, hx, by rw [stop2_congr hf hd]; exact hs⟩

/-- what the second pass logs at one entry without faults -/
def Pass2Op (e : TEntry) (o : Op) : Prop :=
  e.isPad = false ∧ o.path = e.fullTarget ∧ (o.kind = .openrw ∨ (o.kind = .setlen e.fileLength ∧ o.ok = true))

theorem pass2_cons_nf (st : St) (hf : st.faults = []) (e : TEntry) (es : List TEntry) :
    ∃ st' new, st'.faults = [] ∧ st'.ops = st.ops ++ new ∧ (∀ o ∈ new, Pass2Op e o) ∧
      st'.fs = (if stop2 st.fs e then st.fs else RunN.step st.fs e) ∧
      ((∀ o ∈ new, o.kind = .openrw) ∨
        (e.isPad = false ∧ ∃ i, st.fs.look e.fullTarget = .file i ∧ (st.fs.content i).length < e.fileLength)) ∧
      resizePass2 st (e :: es) = if stop2 st.fs e then (st', .error) else resizePass2 st' es := by
  rw [resizePass2_cons]
  have hv := RunN.openrw_val st hf e.fullTarget
  have hfs := RunN.openrw_fs st e.fullTarget
  have hfa1 := (St.op_fst_faults st .openrw e.fullTarget (natOpenrw e.fullTarget)).trans hf
  have hops := St.op_fst_ops st .openrw e.fullTarget (natOpenrw e.fullTarget)
  cases hp : e.isPad
  · simp only [Bool.false_eq_true, if_false]
    have hnew1 : ∀ o ∈ [(⟨.openrw, e.fullTarget, (st.op .openrw e.fullTarget (natOpenrw e.fullTarget)).2⟩ : Op)],
        Pass2Op e o ∧ o.kind = .openrw := by
      intro o ho; rw [List.mem_singleton] at ho; subst ho; exact ⟨⟨hp, rfl, .inl rfl⟩, rfl⟩
    cases hl : st.fs.look e.fullTarget with
    | notFound | notDir | dir =>
      rw [hl] at hv; simp only at hv
      refine ⟨_, _, hfa1, hops, fun o ho => (hnew1 o ho).1, ?_, .inl fun o ho => (hnew1 o ho).2, ?_⟩
      · rw [hfs]; simp [stop2, RunN.step, hp, hl]
      · simp [stop2, hp, hl, hv, hf]
    | file i =>
      rw [hl] at hv; simp only at hv
      by_cases hlt : (st.fs.content i).length < e.fileLength
      · have h2 := St.op_nofault (st := (st.op .openrw e.fullTarget (natOpenrw e.fullTarget)).1) (.setlen e.fileLength)
          e.fullTarget (fun fs => (fs.setLen i e.fileLength, true)) (by rw [hfa1]; rfl)
        refine ⟨((st.op .openrw e.fullTarget (natOpenrw e.fullTarget)).1.op (.setlen e.fileLength) e.fullTarget
            (fun fs => (fs.setLen i e.fileLength, true))).1,
          [⟨.openrw, e.fullTarget, true⟩, ⟨.setlen e.fileLength, e.fullTarget, true⟩], ?_, ?_, ?_, ?_,
          .inr ⟨trivial, i, rfl, hlt⟩, ?_⟩
        · rw [h2]; exact hfa1
        · rw [h2]; simp only [hops, hv]; simp
        · intro o ho
          simp only [List.mem_cons, List.not_mem_nil, or_false] at ho
          rcases ho with rfl | rfl
          · exact ⟨hp, rfl, .inl rfl⟩
          · exact ⟨hp, rfl, .inr ⟨rfl, rfl⟩⟩
        · rw [h2]; simp [stop2, RunN.step, hp, hl, hlt, hfs]
        · simp [stop2, hp, hl, hv, hfs, hlt, h2]
      · refine ⟨_, _, hfa1, hops, fun o ho => (hnew1 o ho).1, ?_, .inl fun o ho => (hnew1 o ho).2, ?_⟩
        · rw [hfs]; simp [stop2, RunN.step, hp, hl, hlt]
        · simp [stop2, hp, hl, hv, hfs, hlt]
  · exact ⟨st, [], hf, by simp, by simp, by simp [stop2, RunN.step, hp], .inl (by simp), by simp [stop2, hp]⟩

/-- the entries the second pass processes before it stops -/
def pre2 (fs : Fs) (es : List TEntry) : List TEntry := es.takeWhile (fun e => !stop2 fs e)

theorem pre2_congr {fs fs0 : Fs} (h1 : fs.files = fs0.files) (h2 : fs.dirs = fs0.dirs) (es : List TEntry) :
    pre2 fs es = pre2 fs0 es := by
  unfold pre2
  congr 1
  funext e
  rw [stop2_congr h1 h2]

theorem pre2_sub (fs : Fs) (es : List TEntry) : ∀ e ∈ pre2 fs es, e ∈ es :=
  fun _ h => (List.takeWhile_sublist _).subset h

theorem pre2_all (fs : Fs) (es : List TEntry) (h : ∀ e ∈ es, stop2 fs e = false) : pre2 fs es = es := by
  unfold pre2
  induction es with
  | nil => rfl
  | cons e es ih =>
    rw [List.takeWhile_cons, h e List.mem_cons_self]
    simp only [Bool.not_false, if_true]
    rw [ih (fun x hx => h x (List.mem_cons_of_mem _ hx))]

theorem pass2_spec (es : List TEntry) : ∀ st : St, st.faults = [] →
    ((resizePass2 st es).2 = .error ↔ ∃ e ∈ es, stop2 st.fs e = true) ∧
    (resizePass2 st es).1.faults = [] ∧
    (resizePass2 st es).1.fs = (pre2 st.fs es).foldl RunN.step st.fs ∧
    ∃ new, (resizePass2 st es).1.ops = st.ops ++ new ∧
      ∀ o ∈ new, ∃ e ∈ es, Pass2Op e o ∧ (o.kind = .openrw ∨ e ∈ pre2 st.fs es) := by
  induction es with
  | nil => intro st hf; exact ⟨by simp [resizePass2], hf, rfl, [], by simp [resizePass2], by simp⟩
  | cons e es ih =>
    intro st hf
    obtain ⟨st', new, h1, h2, h3, h4, h5, h6⟩ := pass2_cons_nf st hf e es
    rw [h6]
    cases hs : stop2 st.fs e
    · rw [hs] at h4
      simp only [Bool.false_eq_true, if_false] at h4 ⊢
      have hf' : st'.fs.files = st.fs.files := by rw [h4]; exact (RunN.step_frame _ _).1
      have hd' : st'.fs.dirs = st.fs.dirs := by rw [h4]; exact (RunN.step_frame _ _).2.1
      obtain ⟨i1, i2, i3, n2, i4, i5⟩ := ih st' h1
      have hpre : pre2 st.fs (e :: es) = e :: pre2 st.fs es := by simp [pre2, hs]
      refine ⟨?_, i2, ?_, new ++ n2, by rw [i4, h2, List.append_assoc], ?_⟩
      · rw [i1]
        constructor
        · rintro ⟨x, hx, hxs⟩
          exact ⟨x, List.mem_cons_of_mem _ hx, by rw [← stop2_congr hf' hd']; exact hxs⟩
        · rintro ⟨x, hx, hxs⟩
          rcases List.mem_cons.1 hx with rfl | hx
          · rw [hs] at hxs; cases hxs
          · exact ⟨x, hx, by rw [stop2_congr hf' hd']; exact hxs⟩
      · rw [i3, hpre, pre2_congr hf' hd', h4]; rfl
      · intro o ho
        rcases List.mem_append.1 ho with ho | ho
        · exact ⟨e, List.mem_cons_self, h3 o ho, .inr (by rw [hpre]; exact List.mem_cons_self)⟩
        · obtain ⟨x, hx, hp, hor⟩ := i5 o ho
          refine ⟨x, List.mem_cons_of_mem _ hx, hp, hor.imp id (fun h => ?_)⟩
          rw [hpre, ← pre2_congr hf' hd']
          exact List.mem_cons_of_mem _ h
    · rw [hs] at h4
      simp only [if_true] at h4 ⊢
      have hpre : pre2 st.fs (e :: es) = [] := by simp [pre2, hs]
      refine ⟨⟨fun _ => ⟨e, List.mem_cons_self, hs⟩, fun _ => trivial⟩, h1, by rw [hpre, h4]; rfl, new, h2, ?_⟩
      intro o ho
      refine ⟨e, List.mem_cons_self, h3 o ho, .inl ?_⟩
      rcases h5 with h5 | ⟨_, i, hi, _⟩
      · exact h5 o ho
      · rcases ((stop2_iff _ _).1 hs).2 with h | h <;> rw [h] at hi <;> cases hi



theorem fix_continue (st : St) (table : List TEntry) (h : (resizePass1 st table).2 = .continue) :
    fixExportFileLengths st table = resizePass2 (resizePass1 st table).1 table := by
  unfold fixExportFileLengths
  rcases hp : resizePass1 st table with ⟨st1, fl⟩
  rw [hp] at h
  cases h
  rfl

theorem flow_cases (f : Flow) : f = .error ∨ f = .continue := by cases f <;> simp

theorem fix_stop1_any (st : St) (table : List TEntry) (h : ∃ e ∈ table, stop1 st.fs e = true) :
    (fixExportFileLengths st table).2 = .error ∧ (fixExportFileLengths st table).1.fs = st.fs ∧
    ∃ new, (fixExportFileLengths st table).1.ops = st.ops ++ new ∧ ∀ o ∈ new, o.kind = .openr := by
  rw [fixExportFileLengths_error _ _ (pass1_detects st table h)]
  exact ⟨rfl, (pass1_roext st table).fs, (resizePass1_trace st table).ext⟩

theorem fix_detects (st : St) (table : List TEntry)
    (h : (∃ e ∈ table, stop1 st.fs e = true) ∨ (∃ e ∈ table, stop2 st.fs e = true)) :
    (fixExportFileLengths st table).2 = .error := by
  rcases flow_cases (resizePass1 st table).2 with h1 | h1
  · rw [fixExportFileLengths_error _ _ h1]
  · rw [fix_continue _ _ h1]
    rcases h with h | h
    · rw [pass1_detects st table h] at h1; cases h1
    · exact pass2_detects table _ (by rw [(pass1_roext st table).fs]; exact h)

/-- what the pre-flight logs: read-only opens (first pass), read+write opens and successful `set_len`s of entries
    before the entry at which the second pass stops -/
def FixOp (fs : Fs) (table : List TEntry) (o : Op) : Prop :=
  o.kind = .openr ∨ ∃ e ∈ table, Pass2Op e o ∧ (o.kind = .openrw ∨ e ∈ pre2 fs table)

theorem fix_spec (st : St) (hf : st.faults = []) (table : List TEntry) :
    ((fixExportFileLengths st table).2 = .error ↔
      (∃ e ∈ table, stop1 st.fs e = true) ∨ (∃ e ∈ table, stop2 st.fs e = true)) ∧
    ((¬ ∃ e ∈ table, stop1 st.fs e = true) →
      (fixExportFileLengths st table).1.fs = (pre2 st.fs table).foldl RunN.step st.fs ∧
      (fixExportFileLengths st table).1.faults = [] ∧
      ∃ new, (fixExportFileLengths st table).1.ops = st.ops ++ new ∧ ∀ o ∈ new, FixOp st.fs table o) := by
  have h1 := pass1_error_iff table st hf
  have r1 := (pass1_roext st table).fs
  obtain ⟨n1, r2, r3⟩ := (resizePass1_trace st table).ext
  have rf := (pass1_roext st table).faults.trans hf
  obtain ⟨p1, p2, p3, n2, p4, p5⟩ := pass2_spec table (resizePass1 st table).1 rf
  rw [r1] at p1 p3 p5
  refine ⟨⟨fun h => ?_, fix_detects st table⟩, fun hno => ?_⟩
  · rcases flow_cases (resizePass1 st table).2 with h' | h'
    · exact .inl (h1.1 h')
    · rw [fix_continue _ _ h'] at h
      exact .inr (p1.1 h)
  · have hc : (resizePass1 st table).2 = .continue := by
      rcases flow_cases (resizePass1 st table).2 with h' | h'
      · exact absurd (h1.1 h') hno
      · exact h'
    rw [fix_continue _ _ hc]
    refine ⟨p3, p2, n1 ++ n2, by rw [p4, r2, List.append_assoc], fun o ho => ?_⟩
    rcases List.mem_append.1 ho with ho | ho
    · exact .inl (r3 o ho)
    · exact .inr (p5 o ho)

/-- `fs'` is `fs` with the images of some non-padding entries of `es` zero-extended: same names, same directories,
    same inode counter; the content of every inode is the old content followed by `k` zeros, and where `k ≠ 0` the
    inode is the image of an entry of `es` that declared more than the old length, and the new length is the declared
    length of such an entry -/
def Grown (fs : Fs) (es : List TEntry) (fs' : Fs) : Prop :=
  fs'.files = fs.files ∧ fs'.dirs = fs.dirs ∧ fs'.next = fs.next ∧
  ∀ i, ∃ k, fs'.content i = fs.content i ++ List.replicate k 0 ∧
    (k ≠ 0 → ∃ e ∈ es, e.isPad = false ∧ fs.look e.fullTarget = .file i ∧
      (fs.content i).length < e.fileLength ∧ (fs'.content i).length = e.fileLength)

theorem foldl_step_grown (es : List TEntry) : ∀ fs : Fs, Grown fs es (es.foldl RunN.step fs) := by
  induction es with
  | nil => intro fs; exact ⟨rfl, rfl, rfl, fun i => ⟨0, by simp, fun h => absurd rfl h⟩⟩
  | cons e es ih =>
    intro fs
    obtain ⟨g1, g2, g3, g4⟩ := ih (RunN.step fs e)
    rw [List.foldl_cons]
    obtain ⟨s1, s2, s3⟩ := RunN.step_frame fs e
    refine ⟨g1.trans s1, g2.trans s2, g3.trans s3, fun i => ?_⟩
    obtain ⟨k2, c2, w2⟩ := g4 i
    obtain ⟨k1, c1, w1⟩ := RunN.step_content fs e i
    refine ⟨k1 + k2, by rw [c2, c1, List.append_assoc, List.replicate_append_replicate], fun hk => ?_⟩
    by_cases hk2 : k2 = 0
    · subst hk2
      have hk1 : k1 ≠ 0 := by omega
      obtain ⟨a1, a2, a3, a4⟩ := w1 hk1
      refine ⟨e, List.mem_cons_self, a1, a2, a3, ?_⟩
      rw [c2]; simpa using a4
    · obtain ⟨x, hx, b1, b2, b3, b4⟩ := w2 hk2
      refine ⟨x, List.mem_cons_of_mem _ hx, b1, ?_, ?_, b4⟩
      · rw [← RunN.step_look fs e]; exact b2
      · rw [c1] at b3; simp at b3; omega

theorem foldl_step_reaches (es : List TEntry) : ∀ fs : Fs, ∀ e ∈ es, e.isPad = false →
    ∀ i, fs.look e.fullTarget = .file i → e.fileLength ≤ ((es.foldl RunN.step fs).content i).length := by
  induction es with
  | nil => intro _ e he; cases he
  | cons x es ih =>
    intro fs e he hp i hi
    rw [List.foldl_cons]
    rcases List.mem_cons.1 he with rfl | he
    · obtain ⟨k, hk, _⟩ := (foldl_step_grown es (RunN.step fs e)).2.2.2 i
      rw [hk, List.length_append]
      exact Nat.le_trans (RunN.step_reaches hp hi) (Nat.le_add_right _ _)
    · exact ih _ e he hp i (by rw [RunN.step_look]; exact hi)

theorem Grown.mono {fs fs' : Fs} {es es' : List TEntry} (h : Grown fs es fs') (hs : ∀ e ∈ es, e ∈ es') :
    Grown fs es' fs' := by
  obtain ⟨g1, g2, g3, g4⟩ := h
  refine ⟨g1, g2, g3, fun i => ?_⟩
  obtain ⟨k, c, w⟩ := g4 i
  exact ⟨k, c, fun hk => by obtain ⟨e, he, r⟩ := w hk; exact ⟨e, hs e he, r⟩⟩

theorem Grown.refl (fs : Fs) (es : List TEntry) : Grown fs es fs :=
  ⟨rfl, rfl, rfl, fun _ => ⟨0, by simp, fun h => absurd rfl h⟩⟩


theorem run_validate_false (H : Bytes → Bytes) (inp : RunIn) (hne : inp.torrents ≠ []) (hv : valOk inp = false) :
    run H inp = ⟨.err, (runSt1 inp).ops, (runSt1 inp).fs, [], 0, true, [], [], (runSt1 inp).ops.length⟩ := by
  rcases run_stages H inp hne with ⟨_, h⟩ | ⟨h, _⟩ | ⟨h, _⟩
  · exact h
  · rw [hv] at h; cases h
  · rw [hv] at h; cases h

theorem run_fix_error (H : Bytes → Bytes) (inp : RunIn) (hne : inp.torrents ≠ []) (hv : valOk inp = true)
    (hr : inp.resize = true) (hf : (fixRes inp).2 = .error) :
    run H inp = ⟨.err, (fixRes inp).1.ops, (fixRes inp).1.fs, [], 0, true, runTable0 inp, [],
      (fixRes inp).1.ops.length⟩ := by
  rcases run_stages H inp hne with ⟨h, _⟩ | ⟨_, _, _, h⟩ | ⟨_, h, _⟩
  · rw [hv] at h; cases h
  · exact h
  · rw [h hr] at hf; cases hf

theorem run_past_preflight (H : Bytes → Bytes) (inp : RunIn) (hne : inp.torrents ≠ []) (hv : valOk inp = true)
    (h : inp.resize = true → (fixRes inp).2 = .continue) : (run H inp).result ≠ .err := by
  rcases run_stages H inp hne with ⟨h1, _⟩ | ⟨_, hr, h1, _⟩ | ⟨_, _, h1⟩
  · rw [hv] at h1; cases h1
  · rw [h hr] at h1; cases h1
  · rw [h1]
    rcases runSolve_cases H (dedupTorrents (sortTorrents inp.torrents)) inp.order
      (populateSearches (RunQ.cacheOf inp) inp.searchObs (runTable0 inp))
      with ⟨_, h2⟩ | ⟨work, ok, _, h2⟩ <;> rw [h2]
    · exact fun hc => by cases hc
    · show (if _ then Res.panic else Res.ok ()) ≠ _
      split <;> exact fun hc => by cases hc

/-- the bookkeeping fields of a run: either nothing was evaluated (`total = 0`, no record, empty work list: no torrents,
    an error, or the panic of `convert_pieces_to_work`), or the records are those of `solveAll` on a permutation-length
    list of the work items -/
theorem run_book (H : Bytes → Bytes) (inp : RunIn) :
    ((run H inp).total = 0 ∧ (run H inp).counters = [] ∧ (run H inp).work = []) ∨
    ∃ st ordered, ordered.length = (run H inp).work.length ∧ (run H inp).total = (run H inp).work.length ∧
      (run H inp).result = (if (solveAll H st ordered ⟨0, 0, 0⟩ []).2.2 then .panic else .ok ()) ∧
      (run H inp).counters = (solveAll H st ordered ⟨0, 0, 0⟩ []).2.1 := by
  by_cases hne : inp.torrents = []
  · rw [RB.run_nil H inp hne]
    exact .inl ⟨rfl, rfl, rfl⟩
  · rcases run_stages H inp hne with ⟨_, h⟩ | ⟨_, _, _, h⟩ | ⟨_, _, h⟩ <;> rw [h]
    · exact .inl ⟨rfl, rfl, rfl⟩
    · exact .inl ⟨rfl, rfl, rfl⟩
    · rcases runSolve_cases H (dedupTorrents (sortTorrents inp.torrents)) inp.order
        (populateSearches (RunQ.cacheOf inp) inp.searchObs (runTable0 inp))
        with ⟨_, h2⟩ | ⟨work, ok, _, h2⟩ <;> rw [h2]
      · exact .inl ⟨rfl, rfl, rfl⟩
      · exact .inr ⟨_, _, evalOrder_length work inp.order, rfl, rfl, rfl⟩

end TB.RunY
