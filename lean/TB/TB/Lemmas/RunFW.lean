/-
  The writer and a whole piece evaluation as local changes of the tree (`Loc`); what one successful segment
  write leaves behind.
-/
import TB.Lemmas.RunF
import TB.Lemmas.RunC
namespace TB.RunF
open TB

theorem writeOne_loc {T : Path → Prop} {st st' : St} {seg : WSeg} {buf : Bytes} {start : Nat} {r : Option Solved}
    (w : WriteOne st seg buf start st' r) (hT : T seg.ent.fullTarget) : Loc T st.fs st'.fs := by
  have L1 : ∀ {st1 : St} {ok : Bool}, st.op .mkdirs seg.ent.fullTarget.dropLast (fun fs => fs.mkdirs seg.ent.fullTarget.dropLast)
      = (st1, ok) → Loc T st.fs st1.fs := fun h1 => loc_op h1 (loc_mkdirs T _ _)
  -- the open changes names only if the directories above the image exist, which the successful `mkdirs` ensures
  have L2 : ∀ {st1 st2 : St} {ok : Bool}, st.op .mkdirs seg.ent.fullTarget.dropLast (fun fs => fs.mkdirs seg.ent.fullTarget.dropLast)
      = (st1, true) → st1.op .openc seg.ent.fullTarget
        (fun fs => ((fs.openCreate seg.ent.fullTarget).1, (fs.openCreate seg.ent.fullTarget).2.isSome)) = (st2, ok) →
      Loc T st.fs st2.fs := by
    intro st1 st2 ok h1 h2
    obtain ⟨_, e1, s1⟩ := St.op_ok h1
    refine (L1 h1).trans (loc_op h2 (loc_openCreate hT fun q hq => ?_))
    rw [e1]
    exact mkdirs_ok_isDir s1 q (properPrefixes_sub_dropLast hq)
  have L3 : ∀ {st2 st3 : St} {i : Nat} {ok : Bool}, st2.fs.look seg.ent.fullTarget = .file i →
      st2.op (.setlen seg.ent.fileLength) seg.ent.fullTarget (fun fs => (fs.setLen i seg.ent.fileLength, true))
        = (st3, ok) → Loc T st2.fs st3.fs ∧ st3.fs.inoOf seg.ent.fullTarget = some i := by
    intro st2 st3 i ok hl h3
    have L := loc_op (T := T) h3 (loc_setLen hT (look_file_inoOf hl) _)
    exact ⟨L, L.ino_pres _ _ (look_file_inoOf hl)⟩
  have L5 : ∀ {st3 st4 st5 : St} {i : Nat} {ok4 ok5 : Bool}, st3.fs.inoOf seg.ent.fullTarget = some i →
      st3.op (.seek seg.off) seg.ent.fullTarget (fun fs => (fs, true)) = (st4, ok4) →
      st4.op (.write seg.off ((buf.drop start).take seg.len)) seg.ent.fullTarget
        (fun fs => (fs.writeAt i seg.off ((buf.drop start).take seg.len), true)) = (st5, ok5) →
      Loc T st3.fs st5.fs := by
    intro st3 st4 st5 i ok4 ok5 hi h4 h5
    have e4 : st4.fs = st3.fs := St.op_fs_same h4 rfl
    rw [← e4]
    exact loc_op h5 (loc_writeAt hT (by rw [e4]; exact hi) _ _)
  cases w with
  | mkdirs h1 => exact L1 h1
  | openc h1 h2 | notFile h1 h2 _ => exact L2 h1 h2
  | setlen h1 h2 hl h3 => exact (L2 h1 h2).trans (L3 hl h3).1
  | seek h1 h2 hl h3 h4 | short h1 h2 hl h3 h4 _ =>
    rw [St.op_fs_same h4 rfl]; exact (L2 h1 h2).trans (L3 hl h3).1
  | write h1 h2 hl h3 h4 _ h5 | done h1 h2 hl h3 h4 _ h5 =>
    exact ((L2 h1 h2).trans (L3 hl h3).1).trans (L5 (L3 hl h3).2 h4 h5)

theorem writeOne_ok {st st5 : St} {seg : WSeg} {buf : Bytes} {start : Nat}
    (w : WriteOne st seg buf start st5 none) :
    start + seg.len ≤ buf.length ∧
    ∃ i, st5.fs.look seg.ent.fullTarget = .file i ∧ seg.off + seg.len ≤ (st5.fs.content i).length ∧
      st5.fs.readAt i seg.off seg.len = (buf.drop start).take seg.len := by
  cases w with
  | done h1 h2 hl h3 h4 hlen h5 =>
    rename_i st1 st2 st3 st4 i
    have e3 := (St.op_ok h3).2.1
    have e4 : st4.fs = st3.fs := St.op_fs_same h4 rfl
    have e5 := (St.op_ok h5).2.1
    simp only at e3 e5
    have hdl : ((buf.drop start).take seg.len).length = seg.len := by
      simp only [List.length_take, List.length_drop]; omega
    refine ⟨hlen, i, ?_, ?_, ?_⟩
    · rw [e5, RD.Fs.look_writeAt, e4, e3, RD.Fs.look_setLen]; exact hl
    · rw [e5, RD.Fs.content_writeAt_length, hdl]; exact Nat.le_max_right _ _
    · have := RD.Fs.readAt_writeAt st4.fs i seg.off ((buf.drop start).take seg.len)
      rwa [hdl, ← e5] at this

/-- the export images the writer touches: non-padding segments not matched from their own image -/
def Tof (pairs : List (WSeg × Option Path)) (p : Path) : Prop :=
  ∃ x ∈ pairs, x.1.ent.isPad = false ∧ x.2 ≠ some x.1.ent.fullTarget ∧ p = x.1.ent.fullTarget

theorem Tof.tail {x : WSeg × Option Path} {rest : List (WSeg × Option Path)} (p : Path) (h : Tof rest p) :
    Tof (x :: rest) p := by
  obtain ⟨y, hy, h1, h2, h3⟩ := h
  exact ⟨y, List.mem_cons_of_mem _ hy, h1, h2, h3⟩

theorem writeSegs_loc (pairs : List (WSeg × Option Path)) (st : St) (buf : Bytes) (start : Nat) :
    Loc (Tof pairs) st.fs (writeSegs st pairs buf start).1.fs := by
  induction st, pairs, start using writeSegs_induct buf with
  | nil => exact Loc.refl _ _
  | skip _ _ _ _ _ _ ih => exact ih.mono Tof.tail
  | fail _ seg src _ _ _ hp hs w => exact writeOne_loc w ⟨(seg, src), List.mem_cons_self, hp, hs, rfl⟩
  | step _ seg src _ _ _ hp hs w ih =>
    exact (writeOne_loc w ⟨(seg, src), List.mem_cons_self, hp, hs, rfl⟩).trans (ih.mono Tof.tail)

/-- the export images of the non-padding segments of a piece -/
def Tw (w : Work) (p : Path) : Prop := ∃ s ∈ w.segs, s.ent.isPad = false ∧ p = s.ent.fullTarget

theorem Tof_zip_sub {segs : List WSeg} {srcs : List (Option Path)} {w : Work} (hs : ∀ s ∈ segs, s ∈ w.segs)
    (p : Path) (h : Tof (List.zip segs srcs) p) : Tw w p := by
  obtain ⟨x, hx, h1, _, h3⟩ := h
  exact ⟨x.1, hs _ (List.of_mem_zip hx).1, h1, h3⟩

theorem solvePiece_loc (H : Bytes → Bytes) (st : St) (w : Work) : Loc (Tw w) st.fs (solvePiece H st w).1.fs := by
  -- the scan (one segment) and the preload (several) leave the tree alone; where a match was found the writer follows
  fun_cases solvePiece H st w
  case case5 seg hsegs _ _ _ st1 src bytes hscan =>
    rw [← (RC.ROExt.of_eq hscan (RC.scanSingle_ext H w.hash _ st _)).fs]
    exact (writeSegs_loc [(seg, some src)] st1 bytes 0).mono
      (Tof_zip_sub (segs := [seg]) (srcs := [some src]) fun s hs => hsegs ▸ hs)
  case case6 hscan | case7 hscan | case8 hscan =>
    exact Loc.of_eq (RC.ROExt.of_eq hscan (RC.scanSingle_ext H w.hash _ st _)).fs
  case case9 hpre =>
    rw [← (RC.ROExt.of_eq hpre (RC.preload_ext st w.segs)).fs]
    exact (writeSegs_loc _ _ _ 0).mono (Tof_zip_sub fun s hs => hs)
  case case10 hpre | case11 hpre | case12 hpre =>
    exact Loc.of_eq (RC.ROExt.of_eq hpre (RC.preload_ext st w.segs)).fs
  all_goals exact Loc.refl _ _

end TB.RunF
