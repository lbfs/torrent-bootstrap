/-
  A successful outcome implies every operation logged on the way succeeded (C13).
-/
import TB.Lemmas.RunDBase
import TB.Lemmas.Run
namespace TB.RD
def AllOk (st st' : St) : Prop := ∃ new, st'.ops = st.ops ++ new ∧ ∀ o ∈ new, o.ok = true

theorem AllOk.refl (st : St) : AllOk st st := ⟨[], by simp, by simp⟩

theorem AllOk.trans {a b c : St} (h1 : AllOk a b) (h2 : AllOk b c) : AllOk a c := by
  obtain ⟨n1, o1, a1⟩ := h1
  obtain ⟨n2, o2, a2⟩ := h2
  refine ⟨n1 ++ n2, by rw [o2, o1, List.append_assoc], ?_⟩
  intro o ho
  rcases List.mem_append.mp ho with h | h
  · exact a1 o h
  · exact a2 o h

theorem AllOk.of_op {st st1 : St} {ok : Bool} {k : OpKind} {p : Path} {n : Fs → Fs × Bool}
    (h : st.op k p n = (st1, ok)) (hok : ¬ (!ok) = true) : AllOk st st1 := by
  refine ⟨[⟨k, p, ok⟩], St.op_ops h, ?_⟩
  intro o ho
  cases ok
  · simp at hok
  · simp at ho; rw [ho]

theorem AllOk.newOps {st st' : St} (h : AllOk st st') : ∀ o ∈ newOps st st', o.ok = true := by
  obtain ⟨new, ho, ha⟩ := h
  unfold TB.newOps
  rw [ho, List.drop_left]
  exact ha

theorem readBytes_allOk (st : St) (p : Path) (len off : Nat) :
    (st.readBytes p len off).2.isSome = true → AllOk st (st.readBytes p len off).1 := by
  -- bytes are returned in two ways: `len = 0` after open and seek, or after open, seek and read on a regular file
  fun_cases St.readBytes st p len off
  case case3 h1 n1 _ _ h2 n2 _ => exact fun _ => (AllOk.of_op h1 n1).trans (AllOk.of_op h2 n2)
  case case5 h1 n1 _ _ h2 n2 _ _ _ h3 n3 _ _ =>
    exact fun _ => ((AllOk.of_op h1 n1).trans (AllOk.of_op h2 n2)).trans (AllOk.of_op h3 n3)
  all_goals exact Bool.noConfusion

theorem scanSingle_allOk (H : Bytes → Bytes) (hash : Bytes) (seg : WSeg) (ps : List Path) (st : St) :
    (scanSingle H hash seg st ps).2.isOk = true → AllOk st (scanSingle H hash seg st ps).1 := by
  fun_induction scanSingle H hash seg st ps with
  | case1 st => exact fun _ => AllOk.refl st
  | case2 => exact Bool.noConfusion
  -- the first candidate matches
  | case3 st p _ _ _ h =>
    have r := readBytes_allOk st p seg.len seg.off
    rw [h] at r
    exact fun _ => r rfl
  -- it does not: on to the next
  | case4 st p _ _ _ h _ ih =>
    have r := readBytes_allOk st p seg.len seg.off
    rw [h] at r
    exact fun hh => (r rfl).trans (ih hh)

theorem preloadSeg_allOk (seg : WSeg) (ps : List Path) (st : St) (acc : List (Option Path × Bytes)) :
    (preloadSeg seg st ps acc).2.isOk = true → AllOk st (preloadSeg seg st ps acc).1 := by
  fun_induction preloadSeg seg st ps acc with
  | case1 st => exact fun _ => AllOk.refl st
  | case2 => exact Bool.noConfusion
  | case3 st p _ _ _ _ h _ ih | case4 st p _ _ _ _ h _ ih =>
    have r := readBytes_allOk st p seg.len seg.off
    rw [h] at r
    exact fun hh => (r rfl).trans (ih hh)

theorem preload_allOk (segs : List WSeg) :
    ∀ st, (preload st segs).2.isOk = true → AllOk st (preload st segs).1 := by
  induction segs with
  | nil => intro st _; exact AllOk.refl st
  | cons seg rest ih =>
    intro st
    cases hpad : seg.ent.isPad
    case true => rw [preload_cons_pad hpad, Res.isOk_map]; exact ih st
    cases hs : seg.ent.searches with
    | none => rw [preload_cons_empty hpad hs, Res.isOk_map]; exact ih st
    | some paths =>
      rw [preload_cons_paths hpad hs]
      have r := preloadSeg_allOk seg paths st []
      rcases h1 : preloadSeg seg st paths [] with ⟨st1, r1 | _ | _⟩
      · rw [h1] at r
        rw [Res.isOk_map]
        exact fun h => (r rfl).trans (ih st1 h)
      · intro h; cases h
      · intro h; cases h

theorem writeSegs_allOk (st : St) (pairs : List (WSeg × Option Path)) (buf : Bytes) (start : Nat) :
    (writeSegs st pairs buf start).2 = .found → AllOk st (writeSegs st pairs buf start).1 := by
  induction st, pairs, start using writeSegs_induct buf with
  | nil => intro _; exact AllOk.refl _
  | skip _ _ _ _ _ _ ih => exact ih
  | fail => intro h; cases h
  | step _ _ _ _ _ _ _ _ w ih =>
    intro h
    cases w with
    | done h1 h2 _ h3 h4 _ h5 =>
      exact (((((AllOk.of_op h1 (by simp)).trans (AllOk.of_op h2 (by simp))).trans (AllOk.of_op h3 (by simp))).trans
        (AllOk.of_op h4 (by simp))).trans (AllOk.of_op h5 (by simp))).trans (ih h)

theorem solvePiece_allOk (H : Bytes → Bytes) (st : St) (w : Work) :
    (solvePiece H st w).2 = .found → AllOk st (solvePiece H st w).1 := by
  -- `found` comes out of three branches: a lone padding segment of zeros with the right hash (nothing logged),
  -- one segment with a matching candidate, several segments with a matching combination (then the writer)
  fun_cases solvePiece H st w
  case case2 => exact fun _ => AllOk.refl st
  case case5 seg _ _ paths _ _ _ _ hscan =>
    have r := scanSingle_allOk H w.hash seg paths st
    rw [hscan] at r
    exact fun hr => (r rfl).trans (writeSegs_allOk _ _ _ _ hr)
  case case9 hpre =>
    have r := preload_allOk w.segs st
    rw [hpre] at r
    exact fun hr => (r rfl).trans (writeSegs_allOk _ _ _ _ hr)
  all_goals exact Solved.noConfusion

end TB.RD