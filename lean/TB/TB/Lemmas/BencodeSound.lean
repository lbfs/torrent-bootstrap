/-
  What `decodeAny` / `decodeListLoop` / `decodeDictLoop` return (soundness, and absence of panics), by
  induction on the fuel. The three statements carry the accumulators of the loops: a list loop entered with
  `acc` returns `acc.reverse ++ items`, a dictionary loop entered with `ks`, `vs` reads keys that ascend
  from `lastKey ks` on.
-/
import TB.Lemmas.BencodeBase
namespace TB

/-- `inp` is the suffix of `full` starting at absolute position `pos` -/
def At (full : Bytes) (pos : Nat) (inp : Bytes) : Prop := pos ≤ full.length ∧ full.drop pos = inp

theorem At.zero (inp : Bytes) : At inp 0 inp := ⟨Nat.zero_le _, rfl⟩

theorem At.append {full : Bytes} {pos : Nat} {a r : Bytes} (h : At full pos (a ++ r)) :
    At full (pos + a.length) r ∧ pos + a.length ≤ full.length
      ∧ slice full pos (pos + a.length) = a := by
  obtain ⟨h1, h2⟩ := h
  have hl : full.length - pos = a.length + r.length := by
    rw [← List.length_drop, h2, List.length_append]
  refine ⟨⟨by omega, ?_⟩, by omega, ?_⟩
  · rw [← List.drop_drop, h2, List.drop_left]
  · rw [slice, h2, Nat.add_sub_cancel_left, List.take_left]

theorem span_ok {full : Bytes} {pos : Nat} {a r : Bytes} (h : At full pos (a ++ r)) {s c : Nat}
    (hs : s = pos) (hc : c = pos + a.length) :
    (decide (s ≤ c) && decide (c ≤ full.length) && slice full s c == a) = true := by
  obtain ⟨_, h2, h3⟩ := h.append
  subst hs hc
  rw [h3, decide_eq_true (Nat.le_add_right _ _), decide_eq_true h2, beq_self_eq_true]; rfl

theorem band {a b : Bool} (ha : a = true) (hb : b = true) : (a && b) = true := by rw [ha, hb]; rfl

/-- the key that the next dictionary key must exceed -/
def lastKey : List StrTok → List Bytes
  | [] => []
  | k :: _ => [k.val]

theorem map_fst_eraseDict : ∀ (ks : List StrTok) (vs : List Tok), ks.length = vs.length →
    (eraseDict ks vs).map (·.1) = ks.map (·.val)
  | [], [], _ => rfl
  | k :: ks, _ :: vs, h => congrArg (k.val :: ·) (map_fst_eraseDict ks vs (Nat.succ.inj h))

def SoundAny (fuel : Nat) : Prop :=
  ∀ (inp : Bytes) (pos : Nat), (decodeAny fuel inp pos).Yields fun (t, rest) =>
    inp = encode (erase t) ++ rest ∧ t.start = pos ∧ t.cont = pos + (encode (erase t)).length
      ∧ canon (erase t) = true ∧ ∀ full, At full pos inp → spansExact full t = true

def SoundList (fuel : Nat) : Prop :=
  ∀ (inp : Bytes) (pos start : Nat) (acc : List Tok),
    (decodeListLoop fuel inp pos start acc).Yields fun (t, rest) =>
      ∃ items, t = .list (acc.reverse ++ items) start (pos + (encodeList (eraseList items)).length + 1)
        ∧ inp = encodeList (eraseList items) ++ 101 :: rest
        ∧ canonList (eraseList items) = true
        ∧ ∀ full, At full pos inp → spansExactList full items = true

def SoundDict (fuel : Nat) : Prop :=
  ∀ (inp : Bytes) (pos start : Nat) (ks : List StrTok) (vs : List Tok),
    (decodeDictLoop fuel inp pos start ks vs).Yields fun (t, rest) =>
      ∃ ks' vs', t = .dict (ks.reverse ++ ks') (vs.reverse ++ vs') start
            (pos + (encodeDict (eraseDict ks' vs')).length + 1)
        ∧ ks'.length = vs'.length
        ∧ inp = encodeDict (eraseDict ks' vs') ++ 101 :: rest
        ∧ canonDict (eraseDict ks' vs') = true
        ∧ keysAscending (lastKey ks ++ ks'.map (·.val)) = true
        ∧ ∀ full, At full pos inp → ks'.all (strSpanOk full) = true ∧ spansExactList full vs' = true

/-- a container at `pos`: opening byte `b`, then `body`, then `e` -/
theorem container_ok (b : UInt8) (body rest : Bytes) (pos : Nat) :
    b :: (body ++ 101 :: rest) = b :: (body ++ [101]) ++ rest
      ∧ pos + 1 + body.length + 1 = pos + (b :: (body ++ [101])).length
      ∧ ∀ full, At full pos (b :: (body ++ 101 :: rest)) → At full (pos + 1) (body ++ 101 :: rest)
        ∧ (decide (pos ≤ pos + 1 + body.length + 1) && decide (pos + 1 + body.length + 1 ≤ full.length)
            && slice full pos (pos + 1 + body.length + 1) == b :: (body ++ [101])) = true := by
  have e : b :: (body ++ 101 :: rest) = b :: (body ++ [101]) ++ rest := by
    rw [List.cons_append, List.append_assoc]; rfl
  have hl : pos + 1 + body.length + 1 = pos + (b :: (body ++ [101])).length := by
    rw [List.length_cons, List.length_append, Nat.add_assoc pos, Nat.add_comm 1]; rfl
  exact ⟨e, hl, fun full hat => ⟨(At.append (a := [b]) hat).1, span_ok (e ▸ hat) rfl hl⟩⟩

theorem sound_any_step (fuel : Nat) (hL : SoundList fuel) (hD : SoundDict fuel) : SoundAny (fuel + 1) := by
  intro inp pos
  cases inp with
  | nil => rw [decodeAny]; trivial
  | cons b rest0 =>
    rw [decodeAny]
    split
    · exact (decodeStrTok_yields (b :: rest0) pos).elim (fun ⟨st, r⟩ ⟨e1, e2, e3, e4⟩ =>
        ⟨e1, e2, e3, decide_eq_true e4, fun full hat => span_ok (e1 ▸ hat) e2 e3⟩) trivial
    · split
      · exact (decodeInt_yields (b :: rest0) pos).elim (fun ⟨v, c, r⟩ ⟨e1, e2, e3⟩ =>
          ⟨e1, rfl, e2, e3, fun full hat => span_ok (e1 ▸ hat) rfl e2⟩) trivial
      · split
        · next hl =>
          obtain rfl := byte_eq_of_beq hl
          refine (hL rest0 (pos + 1) pos []).mono ?_
          rintro ⟨t, rest⟩ ⟨items, rfl, rfl, e3, e4⟩
          obtain ⟨c1, c2, c3⟩ := container_ok 108 (encodeList (eraseList items)) rest pos
          exact ⟨c1, rfl, c2, e3, fun full hat => band (c3 full hat).2 (e4 full (c3 full hat).1)⟩
        · split
          · next hd =>
            obtain rfl := byte_eq_of_beq hd
            refine (hD rest0 (pos + 1) pos [] []).mono ?_
            rintro ⟨t, rest⟩ ⟨ks, vs, rfl, elen, rfl, e3, e5, e4⟩
            obtain ⟨c1, c2, c3⟩ := container_ok 100 (encodeDict (eraseDict ks vs)) rest pos
            refine ⟨c1, rfl, c2, ?_, fun full hat => ?_⟩
            · show (keysAscending ((eraseDict ks vs).map (·.1)) && canonDict (eraseDict ks vs)) = true
              rw [map_fst_eraseDict ks vs elen]
              exact band e5 e3
            · obtain ⟨hat1, hsp⟩ := c3 full hat
              obtain ⟨hs1, hs2⟩ := e4 full hat1
              obtain ⟨hsp12, hsp3⟩ := (Bool.and_eq_true _ _).mp hsp
              exact band (band (band (band hsp12 (decide_eq_true elen)) hsp3) hs1) hs2
          · trivial

theorem sound_list_step (fuel : Nat) (hA : SoundAny fuel) (hL : SoundList fuel) : SoundList (fuel + 1) := by
  intro inp pos start acc
  cases inp with
  | nil => rw [decodeListLoop]; trivial
  | cons b rest0 =>
    rw [decodeListLoop]
    split
    · refine (hA (b :: rest0) pos).elim (fun ⟨t1, r⟩ ⟨a1, _, a3, a4, a5⟩ => ?_) trivial
      refine (hL r t1.cont start (t1 :: acc)).mono ?_
      rintro ⟨t, rest⟩ ⟨items, rfl, rfl, e3, e4⟩
      refine ⟨t1 :: items, ?_, ?_, band a4 e3, fun full hat => ?_⟩
      · rw [List.reverse_cons, List.append_assoc, a3]
        show _ = Tok.list _ _ (pos + (encode (erase t1) ++ encodeList (eraseList items)).length + 1)
        rw [List.length_append, Nat.add_assoc pos]; rfl
      · rw [a1]
        exact (List.append_assoc _ _ _).symm
      · exact band (a5 full hat) (e4 full (a3 ▸ (a1 ▸ hat).append.1))
    · split
      · next he =>
        rw [byte_eq_of_beq he]
        exact ⟨[], by rw [List.append_nil]; rfl, rfl, rfl, fun _ _ => rfl⟩
      · trivial

/-- the decoder's key-order test in state KeyEntry -/
def ordOk (ks : List StrTok) (kv : Bytes) : Bool :=
  match ks with
  | [] => true
  | last :: _ => bytesLt last.val kv

/-- names the (auto-generated) matcher of the `okOrder` test inside `decodeDictLoop` -/
theorem ordMatch_eq (ks : List StrTok) (kv : Bytes) :
    decodeDictLoop.match_3 (fun _ => Bool) ks (fun _ => true) (fun last _ => bytesLt last.val kv)
      = ordOk ks kv := by
  cases ks <;> rfl

theorem keysAscending_lastKey_cons (ks : List StrTok) (k : Bytes) (l : List Bytes) :
    keysAscending (lastKey ks ++ k :: l) = (ordOk ks k && keysAscending (k :: l)) := by
  cases ks with
  | nil => exact (Bool.true_and _).symm
  | cons last _ => rfl

theorem sound_dict_step (fuel : Nat) (hA : SoundAny fuel) (hD : SoundDict fuel) : SoundDict (fuel + 1) := by
  intro inp pos start ks vs
  cases inp with
  | nil => rw [decodeDictLoop]; trivial
  | cons b rest0 =>
    rw [decodeDictLoop]
    split
    · refine (decodeStrTok_yields (b :: rest0) pos).elim (fun ⟨k, r⟩ ⟨k1, k2, k3, k4⟩ => ?_) trivial
      simp only [ordMatch_eq]
      split
      · next hord =>
        cases r with
        | nil => trivial
        | cons b2 r' =>
          dsimp only
          split
          · refine (hA (b2 :: r') k.c).elim (fun ⟨t1, r2⟩ ⟨a1, _, a3, a4, a5⟩ => ?_) trivial
            refine (hD r2 t1.cont start (k :: ks) (t1 :: vs)).mono ?_
            rintro ⟨t, rest⟩ ⟨ks', vs', rfl, elen, rfl, e3, e5, e4⟩
            refine ⟨k :: ks', t1 :: vs', ?_, congrArg (· + 1) elen, ?_, ?_, ?_, fun full hat => ?_⟩
            · rw [List.reverse_cons, List.append_assoc, List.reverse_cons, List.append_assoc, a3, k3]
              show _ = Tok.dict _ _ _ (pos + (encodeStr k.val ++ encode (erase t1)
                ++ encodeDict (eraseDict ks' vs')).length + 1)
              rw [List.length_append, List.length_append, Nat.add_assoc pos, Nat.add_assoc pos]; rfl
            · rw [k1, a1]
              show _ = (encodeStr k.val ++ encode (erase t1) ++ encodeDict (eraseDict ks' vs')) ++ 101 :: rest
              simp only [List.append_assoc]
            · exact band (band (decide_eq_true k4) a4) e3
            · rw [List.map_cons, keysAscending_lastKey_cons]
              exact band hord e5
            · have hat1 := k3 ▸ (k1 ▸ hat).append.1
              obtain ⟨h2, h3⟩ := e4 full (a3 ▸ (a1 ▸ hat1).append.1)
              exact ⟨band (span_ok (k1 ▸ hat) k2 k3) h2, band (a5 full hat1) h3⟩
          · trivial
      · trivial
    · split
      · next he =>
        rw [byte_eq_of_beq he]
        refine ⟨[], [], by rw [List.append_nil, List.append_nil]; rfl, rfl, rfl, rfl, ?_, fun _ _ => ⟨rfl, rfl⟩⟩
        cases ks <;> rfl
      · trivial

theorem sound_all : ∀ fuel, SoundAny fuel ∧ SoundList fuel ∧ SoundDict fuel
  | 0 => ⟨fun _ _ => by rw [decodeAny]; trivial, fun _ _ _ _ => by rw [decodeListLoop]; trivial,
      fun _ _ _ _ _ => by rw [decodeDictLoop]; trivial⟩
  | n + 1 =>
    have ⟨hA, hL, hD⟩ := sound_all n
    ⟨sound_any_step n hL hD, sound_list_step n hA hL, sound_dict_step n hA hD⟩

theorem decodeAny_sound {fuel : Nat} {inp : Bytes} {pos : Nat} {t : Tok} {rest : Bytes}
    (h : decodeAny fuel inp pos = .ok (t, rest)) :
    inp = encode (erase t) ++ rest ∧ t.start = pos ∧ t.cont = pos + (encode (erase t)).length
      ∧ canon (erase t) = true ∧ ∀ full, At full pos inp → spansExact full t = true :=
  ((sound_all fuel).1 inp pos).of_ok h

theorem decodeAny_no_panic (fuel : Nat) (inp : Bytes) (pos : Nat) : decodeAny fuel inp pos ≠ .panic :=
  ((sound_all fuel).1 inp pos).ne_panic

end TB
