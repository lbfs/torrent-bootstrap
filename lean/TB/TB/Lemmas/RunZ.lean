/-
  Evaluating pieces in a different order (TB.Props.OrderIndep).

  Route. As in RunX, two orders are compared on the observable part of the tree (`RunX.View`), where observational
  equivalence is equality.

    * the matchers of `solvePiece` (`single::scan`, `preload` + `scan_internal`) as PURE functions `pScan`, `pLoad`,
      `pMatch` of "the bytes behind every name" (`View.F`); `pMatch_congr`: they only look at the ranges of the
      candidates (`ReadAgree`).
    * the bridge: without fault points, on a well-formed tree whose candidates are regular files, `solvePiece` is
      `pMatch` followed by the writer (`solvePiece_pure`), and on views it is `vstepP` (`solvePiece_view`).
    * the invariant `Good` of a view (aliases, well-formedness, candidates are files, own-image candidates have their
      declared length) is kept by the critical sections of the work items; the sections of one piece do not change
      what another piece reads (`vrun_frame`).
    * two pieces commute on views (`two_comm`); any permutation of a list whose steps commute pairwise, for a step
      function given by variables (`ev_perm`).
    * back to states: `solvePiece_view`, `solvePiece_congr`, `two_pieces`, `evalAll_perm`, `solveAll_eq_evalAll`.
-/
import TB.Lemmas.RunX
import TB.Lemmas.RunQ
namespace TB.RunZ
open TB TB.RunX

/-- the bytes a read of `len` bytes at offset `off` through the name `p` returns, when `F` gives the bytes behind
    every bound name (an unbound name reads as nothing; the matchers are only applied to bound names) -/
def rdF (F : Path → Option Bytes) (p : Path) (off len : Nat) : Bytes := (((F p).getD []).drop off).take len

/-- `single::scan`, pure -/
def pScan (H : Bytes → Bytes) (hash : Bytes) (seg : WSeg) (F : Path → Option Bytes) : List Path → Option (Path × Bytes)
  | [] => none
  | p :: ps =>
    if H (rdF F p seg.off seg.len) == hash then some (p, rdF F p seg.off seg.len) else pScan H hash seg F ps

/-- `preload` for one segment, pure -/
def pLoadSeg (seg : WSeg) (F : Path → Option Bytes) :
    List Path → List (Option Path × Bytes) → List (Option Path × Bytes)
  | [], acc => acc
  | p :: ps, acc =>
    if acc.any (fun r => r.2 == rdF F p seg.off seg.len) then pLoadSeg seg F ps acc
    else pLoadSeg seg F ps (acc ++ [(some p, rdF F p seg.off seg.len)])

/-- `preload`, pure -/
def pLoad (F : Path → Option Bytes) : List WSeg → List (List (Option Path × Bytes))
  | [] => []
  | seg :: rest =>
    if seg.ent.isPad then [(none, List.replicate seg.len 0)] :: pLoad F rest
    else match seg.ent.searches with
      | none => [(none, [])] :: pLoad F rest
      | some paths => pLoadSeg seg F paths [] :: pLoad F rest

/-- what the matcher of `solvePiece` decides: a panic, not found, or a hit — the argument list and the buffer
    handed to `FileWriter::write` -/
inductive MRes where
  | panic
  | notFound
  | hit (pairs : List (WSeg × Option Path)) (buf : Bytes)

/-- the matcher for a piece inside one file (`single::scan`), pure -/
def pSingle (H : Bytes → Bytes) (F : Path → Option Bytes) (hash : Bytes) (seg : WSeg) : MRes :=
  if seg.ent.isPad then
    if H (List.replicate seg.len 0) == hash then .hit [] [] else .notFound
  else
    match seg.ent.searches with
    | none => .panic
    | some paths =>
      match pScan H hash seg F paths with
      | some (src, bytes) => .hit [(seg, some src)] bytes
      | none => .notFound

/-- the matcher for a piece across files (`preload` + `scan_internal`), pure -/
def pMulti (H : Bytes → Bytes) (F : Path → Option Bytes) (hash : Bytes) (segs : List WSeg) : MRes :=
  match searchProduct H hash (pLoad F segs) [] with
  | some chosen => .hit (List.zip segs (chosen.map (·.1))) (chosen.flatMap (·.2))
  | none => .notFound

/-- the matcher of `solve_internal`, pure -/
def pMatch (H : Bytes → Bytes) (F : Path → Option Bytes) (w : Work) : MRes :=
  if w.segs.any (fun s => !s.ent.isPad && s.ent.searches.isNone && s.len != 0) then .notFound else
  match w.segs with
  | [seg] => pSingle H F w.hash seg
  | segs => pMulti H F w.hash segs

/-- two assignments of bytes to names give the same reads of the candidates of the piece `w`, at the ranges `w`
    reads them -/
def ReadAgree (F F' : Path → Option Bytes) (w : Work) : Prop :=
  ∀ s ∈ w.segs, s.ent.isPad = false → ∀ paths, s.ent.searches = some paths → ∀ p ∈ paths,
    rdF F p s.off s.len = rdF F' p s.off s.len

theorem ReadAgree.refl (F : Path → Option Bytes) (w : Work) : ReadAgree F F w := fun _ _ _ _ _ _ _ => rfl

theorem ReadAgree.trans {F F' F'' : Path → Option Bytes} {w : Work} (h1 : ReadAgree F F' w) (h2 : ReadAgree F' F'' w) :
    ReadAgree F F'' w := fun s hs hp paths hps p hpm => (h1 s hs hp paths hps p hpm).trans (h2 s hs hp paths hps p hpm)

theorem pScan_congr (H : Bytes → Bytes) (hash : Bytes) (seg : WSeg) (F F' : Path → Option Bytes) (paths : List Path)
    (h : ∀ p ∈ paths, rdF F p seg.off seg.len = rdF F' p seg.off seg.len) :
    pScan H hash seg F paths = pScan H hash seg F' paths := by
  induction paths with
  | nil => rfl
  | cons p ps ih =>
    simp only [pScan, h p List.mem_cons_self]
    rw [ih (fun q hq => h q (List.mem_cons_of_mem _ hq))]

theorem pLoadSeg_congr (seg : WSeg) (F F' : Path → Option Bytes) (paths : List Path)
    (h : ∀ p ∈ paths, rdF F p seg.off seg.len = rdF F' p seg.off seg.len) (acc : List (Option Path × Bytes)) :
    pLoadSeg seg F paths acc = pLoadSeg seg F' paths acc := by
  induction paths generalizing acc with
  | nil => rfl
  | cons p ps ih =>
    simp only [pLoadSeg, h p List.mem_cons_self]
    rw [ih (fun q hq => h q (List.mem_cons_of_mem _ hq)), ih (fun q hq => h q (List.mem_cons_of_mem _ hq))]

theorem pLoad_congr (F F' : Path → Option Bytes) (segs : List WSeg)
    (h : ∀ s ∈ segs, s.ent.isPad = false → ∀ paths, s.ent.searches = some paths → ∀ p ∈ paths,
      rdF F p s.off s.len = rdF F' p s.off s.len) :
    pLoad F segs = pLoad F' segs := by
  induction segs with
  | nil => rfl
  | cons seg rest ih =>
    have ih' := ih (fun s hs => h s (List.mem_cons_of_mem _ hs))
    simp only [pLoad]
    split
    · rw [ih']
    · rename_i hp
      split
      · rw [ih']
      · rename_i paths hs
        rw [ih', pLoadSeg_congr seg F F' paths (h seg List.mem_cons_self (by simpa using hp) paths hs)]

theorem pSingle_congr (H : Bytes → Bytes) (hash : Bytes) (seg : WSeg) {F F' : Path → Option Bytes}
    (h : seg.ent.isPad = false → ∀ paths, seg.ent.searches = some paths → ∀ p ∈ paths,
      rdF F p seg.off seg.len = rdF F' p seg.off seg.len) :
    pSingle H F hash seg = pSingle H F' hash seg := by
  unfold pSingle
  split
  · rfl
  · rename_i hp
    split
    · rfl
    · rename_i paths hs
      rw [pScan_congr H hash seg F F' paths (h (by simpa using hp) paths hs)]

theorem pMatch_congr (H : Bytes → Bytes) {F F' : Path → Option Bytes} {w : Work} (h : ReadAgree F F' w) :
    pMatch H F w = pMatch H F' w := by
  unfold pMatch
  split
  · rfl
  split
  · rename_i seg hw
    exact pSingle_congr H w.hash seg (h seg (by rw [hw]; exact List.mem_cons_self))
  · unfold pMulti
    rw [pLoad_congr F F' w.segs h]

theorem F_of_look {fs : Fs} {p : Path} {i : Nat} (h : fs.look p = .file i) : (view fs).F p = some (fs.content i) := by
  show (fs.inoOf p).map fs.content = _
  rw [RunF.look_file_inoOf h]
  rfl

theorem rdF_of_look {fs : Fs} {p : Path} {i : Nat} (h : fs.look p = .file i) (off len : Nat) :
    rdF (view fs).F p off len = fs.readAt i off len := by
  unfold rdF Fs.readAt
  rw [F_of_look h]
  rfl

theorem scanSingle_pure (H : Bytes → Bytes) (hash : Bytes) (seg : WSeg) (paths : List Path) :
    ∀ st, RC.NFF st → (∀ p ∈ paths, ∃ i, st.fs.look p = .file i) →
      ∃ st1, RC.ROExt st st1 ∧ scanSingle H hash seg st paths = (st1, .ok (pScan H hash seg (view st.fs).F paths)) := by
  induction paths with
  | nil => intro st _ _; exact ⟨st, RC.ROExt.refl _, rfl⟩
  | cons p ps ih =>
    intro st hn hr
    obtain ⟨i, hi⟩ := hr p List.mem_cons_self
    have hext := RC.readBytes_ext st p seg.len seg.off
    unfold scanSingle pScan
    rw [RC.readBytes_nff hn hi, rdF_of_look hi]
    simp only []
    split
    · exact ⟨_, hext, rfl⟩
    · obtain ⟨st1, e1, h1⟩ := ih _ (hext.nff hn) (fun q hq => by rw [hext.fs]; exact hr q (List.mem_cons_of_mem _ hq))
      rw [hext.fs] at h1
      exact ⟨st1, hext.trans e1, h1⟩

theorem preloadSeg_pure (seg : WSeg) (paths : List Path) :
    ∀ st acc, RC.NFF st → (∀ p ∈ paths, ∃ i, st.fs.look p = .file i) →
      ∃ st1, RC.ROExt st st1 ∧ preloadSeg seg st paths acc = (st1, .ok (pLoadSeg seg (view st.fs).F paths acc)) := by
  induction paths with
  | nil => intro st acc _ _; exact ⟨st, RC.ROExt.refl _, rfl⟩
  | cons p ps ih =>
    intro st acc hn hr
    obtain ⟨i, hi⟩ := hr p List.mem_cons_self
    have hext := RC.readBytes_ext st p seg.len seg.off
    unfold preloadSeg pLoadSeg
    rw [RC.readBytes_nff hn hi, rdF_of_look hi]
    simp only []
    have hr' : ∀ q ∈ ps, ∃ i, (st.readBytes p seg.len seg.off).1.fs.look q = .file i :=
      fun q hq => by rw [hext.fs]; exact hr q (List.mem_cons_of_mem _ hq)
    split
    · obtain ⟨st1, e1, h1⟩ := ih _ acc (hext.nff hn) hr'
      rw [hext.fs] at h1
      exact ⟨st1, hext.trans e1, h1⟩
    · obtain ⟨st1, e1, h1⟩ := ih _ (acc ++ [(some p, st.fs.readAt i seg.off seg.len)]) (hext.nff hn) hr'
      rw [hext.fs] at h1
      exact ⟨st1, hext.trans e1, h1⟩

theorem preload_pure (segs : List WSeg) :
    ∀ st, RC.NFF st →
      (∀ s ∈ segs, ∀ paths, s.ent.searches = some paths → ∀ p ∈ paths, ∃ i, st.fs.look p = .file i) →
      ∃ st1, RC.ROExt st st1 ∧ preload st segs = (st1, .ok (pLoad (view st.fs).F segs)) := by
  induction segs with
  | nil => intro st _ _; exact ⟨st, RC.ROExt.refl _, rfl⟩
  | cons seg rest ih =>
    intro st hn hr
    have hr' : ∀ s ∈ rest, ∀ paths, s.ent.searches = some paths → ∀ p ∈ paths, ∃ i, st.fs.look p = .file i :=
      fun s hs => hr s (List.mem_cons_of_mem _ hs)
    unfold preload pLoad
    split
    · obtain ⟨st1, e1, h1⟩ := ih st hn hr'
      rw [h1]
      exact ⟨st1, e1, rfl⟩
    · split
      · rename_i hs
        obtain ⟨st1, e1, h1⟩ := ih st hn hr'
        rw [h1]
        exact ⟨st1, e1, by simp only [hs]⟩
      · rename_i paths hs
        obtain ⟨st1, e1, h1⟩ := preloadSeg_pure seg paths st [] hn (hr seg List.mem_cons_self paths hs)
        rw [h1]
        simp only []
        obtain ⟨st2, e2, h2⟩ := ih st1 (e1.nff hn) (fun s hs paths hps p hp => by rw [e1.fs]; exact hr' s hs paths hps p hp)
        rw [h2, e1.fs]
        exact ⟨st2, e1.trans e2, by simp only [hs]⟩

/-- what `solvePiece` does after the matcher has decided, from the state `st1` the reads left -/
def afterMatch (st1 : St) : MRes → St × Solved
  | .panic => (st1, .panic)
  | .notFound => (st1, .notFound)
  | .hit pairs buf => writeSegs st1 pairs buf 0

theorem solvePiece_pure (H : Bytes → Bytes) (st : St) (w : Work) (hf : st.faults = [])
    (hfiles : ∀ s ∈ w.segs, ∀ paths, s.ent.searches = some paths → ∀ p ∈ paths, ∃ i, st.fs.look p = .file i) :
    ∃ st1, st1.fs = st.fs ∧ st1.faults = [] ∧
      solvePiece H st w = afterMatch st1 (pMatch H (view st.fs).F w) := by
  have hn := RunQ.nff_of_nil hf
  have multi : ∀ segs, segs = w.segs →
      ∃ st1, st1.fs = st.fs ∧ st1.faults = [] ∧
        (match preload st segs with
          | (st1, .ok loaded) =>
            match searchProduct H w.hash loaded [] with
            | some chosen => writeSegs st1 (List.zip segs (chosen.map (·.1))) (chosen.flatMap (·.2)) 0
            | none => (st1, .notFound)
          | (st1, .err) => (st1, .fault)
          | (st1, .panic) => (st1, .panic)) = afterMatch st1 (pMulti H (view st.fs).F w.hash segs) := by
    intro segs hs
    obtain ⟨st1, e1, h1⟩ := preload_pure segs st hn (by rw [hs]; exact hfiles)
    rw [h1]
    refine ⟨st1, e1.fs, e1.faults.trans hf, ?_⟩
    unfold pMulti
    simp only []
    cases searchProduct H w.hash (pLoad (view st.fs).F segs) [] <;> rfl
  unfold solvePiece pMatch
  simp -iota only
  split
  · exact ⟨st, rfl, hf, rfl⟩
  rcases hw : w.segs with _ | ⟨seg, _ | ⟨seg2, rest⟩⟩
  · exact multi [] hw.symm
  · simp only []
    unfold pSingle
    split
    · split <;> exact ⟨st, rfl, hf, rfl⟩
    · split
      · rename_i hs
        refine ⟨st, rfl, hf, ?_⟩
        simp only [hs]
        rfl
      · rename_i paths hs
        obtain ⟨st1, e1, h1⟩ := scanSingle_pure H w.hash seg paths st hn
          (hfiles seg (by rw [hw]; exact List.mem_cons_self) paths hs)
        rw [h1]
        refine ⟨st1, e1.fs, e1.faults.trans hf, ?_⟩
        simp only [hs]
        cases pScan H w.hash seg (view st.fs).F paths with
        | none => rfl
        | some x => rfl
  · exact multi _ hw.symm

theorem pMatch_pairs_mem {H : Bytes → Bytes} {F : Path → Option Bytes} {w : Work} {pairs : List (WSeg × Option Path)}
    {buf : Bytes} (h : pMatch H F w = .hit pairs buf) : ∀ x ∈ pairs, x.1 ∈ w.segs := by
  unfold pMatch at h
  split at h
  · cases h
  split at h
  · rename_i seg hw
    unfold pSingle at h
    rw [hw]
    split at h
    · split at h
      · cases h; intro x hx; cases hx
      · cases h
    · split at h
      · cases h
      · split at h
        · cases h
          intro x hx
          rw [List.mem_singleton.1 hx]
          exact List.mem_cons_self
        · cases h
  · unfold pMulti at h
    split at h
    · cases h
      exact fun x hx => (List.of_mem_zip hx).1
    · cases h

/-- `a` is a critical section of a non-padding segment of `w` -/
def IsSecOf (w : Work) (a : Sec) : Prop :=
  ∃ s ∈ w.segs, s.ent.isPad = false ∧ a.t = s.ent.fullTarget ∧ a.L = s.ent.fileLength ∧ a.off = s.off ∧
    a.d.length ≤ s.len

/-- the facts about the table and the work list that do not depend on the tree:
    `ent` the entries of the segments are table entries; `range` `SegsInRange`; `same` `hsame`;
    `cross` the static half of `NoCross`: a candidate is the segment's own image or no image of a non-padding entry -/
structure Stat (table : List TEntry) (work : List Work) : Prop where
  ent : ∀ w ∈ work, ∀ s ∈ w.segs, s.ent ∈ table
  range : ∀ w ∈ work, SegsInRange w
  same : ∀ e ∈ table, ∀ f ∈ table, e.isPad = false → f.isPad = false → e.fullTarget = f.fullTarget →
    e.fileLength = f.fileLength
  cross : ∀ w ∈ work, ∀ s ∈ w.segs, s.ent.isPad = false → ∀ paths, s.ent.searches = some paths → ∀ p ∈ paths,
    p = s.ent.fullTarget ∨ ∀ e ∈ table, e.isPad = false → p ≠ e.fullTarget

/-- the invariant of the observable part of the tree along an evaluation:
    `inv` the alias relation is a partial equivalence on bound names; `alias` an export image shares its file with no
    other name (`NoAlias`); `wf` a bound name is no directory and its proper prefixes are directories (`FsWF`);
    `files` every candidate is bound (with `wf`: is a regular file); `ownLen` a segment's own image, when it is among
    the segment's candidates, has the declared length -/
structure Good (table : List TEntry) (work : List Work) (v : View) : Prop where
  inv : VInv v
  alias : ∀ e ∈ table, e.isPad = false → ∀ q, v.A e.fullTarget q = true → q = e.fullTarget
  wf : ∀ p, (v.F p).isSome = true → v.D p = false ∧ ∀ q ∈ Fs.properPrefixes p, v.D q = true
  files : ∀ w ∈ work, ∀ s ∈ w.segs, ∀ paths, s.ent.searches = some paths → ∀ p ∈ paths, (v.F p).isSome = true
  ownLen : ∀ w ∈ work, ∀ s ∈ w.segs, s.ent.isPad = false → ∀ paths, s.ent.searches = some paths →
    s.ent.fullTarget ∈ paths → ∀ c, v.F s.ent.fullTarget = some c → c.length = s.ent.fileLength

/-- ranges of the two pieces inside one export image are disjoint (the cross-item clause of `RangesDisjoint`) -/
def PC (w1 w2 : Work) : Prop :=
  ∀ s ∈ w1.segs, ∀ t ∈ w2.segs, s.ent.isPad = false → t.ent.isPad = false → s.ent.fullTarget = t.ent.fullTarget →
    s.off + s.len ≤ t.off ∨ t.off + t.len ≤ s.off

theorem PC.symm {w1 w2 : Work} (h : PC w1 w2) : PC w2 w1 :=
  fun s hs t ht sp tp e => (h t ht s hs tp sp e.symm).symm

theorem upd_length (L off : Nat) (d c : Bytes) (h : off + d.length ≤ L) : (upd L off d c).length = L := by
  unfold upd
  rw [wr_length, sl_length]
  omega

theorem rd_upd (L off : Nat) (d c : Bytes) (o n : Nat) (hc : c.length = L) (hr : off + d.length ≤ L)
    (hd : off + d.length ≤ o ∨ o + n ≤ off) :
    ((upd L off d c).drop o).take n = (c.drop o).take n := by
  unfold upd
  rw [sl_of_length L c hc]
  apply List.ext_getElem?
  intro k
  simp only [List.getElem?_take, List.getElem?_drop, wr_get]
  split
  · rename_i hk
    split
    · rename_i h1
      exact some_getD (by omega)
    · split
      · omega
      · rfl
  · rfl

theorem good_vstep {table : List TEntry} {work : List Work} (S : Stat table work) {v : View} (G : Good table work v)
    {w : Work} (hw : w ∈ work) {a : Sec} (ha : IsSecOf w a) (hok : vok v a = true) :
    Good table work (vstep v a) := by
  obtain ⟨s, hs, sp, at_, aL, ao, ad⟩ := ha
  have hse := S.ent w hw s hs
  unfold vok at hok
  simp only [Bool.and_eq_true, List.all_eq_true, Bool.not_eq_true', Option.isNone_iff_eq_none] at hok
  obtain ⟨hfree, hnd⟩ := hok
  have hnd1 : v.D a.t = false := by
    cases h : v.D a.t with
    | false => rfl
    | true => rw [h] at hnd; simp at hnd
  have hnd2 : (mk a.t).contains a.t = false := by
    cases h : (mk a.t).contains a.t with
    | false => rfl
    | true => rw [h] at hnd; simp at hnd
  have hAt : ∀ p, v.A p a.t = true → p = a.t := by
    intro p hp
    have := G.alias s.ent hse sp p (by rw [← at_]; exact G.inv.sym _ _ hp)
    rw [this, at_]
  refine ⟨vinv_step G.inv a, ?_, ?_, ?_, ?_⟩
  · intro e he hp q hq
    simp only [vstep, Bool.or_eq_true, Bool.and_eq_true, beq_iff_eq] at hq
    rcases hq with hq | ⟨h1, h2⟩
    · exact G.alias e he hp q hq
    · rw [h2, h1]
  · intro p hp
    by_cases hpt : p = a.t
    · subst hpt
      refine ⟨?_, fun q hq => ?_⟩
      · simp only [vstep, hnd1, hnd2, Bool.or_self]
      · simp only [vstep, Bool.or_eq_true]
        right
        exact List.contains_iff_mem.2 (mem_mk_of_properPrefix hq)
    · have hpa : ¬ v.A p a.t = true := fun h => hpt (hAt p h)
      have hp' : (v.F p).isSome = true := by
        simp only [vstep] at hp
        rw [if_neg (fun h => h.elim hpt hpa)] at hp
        exact hp
      obtain ⟨h1, h2⟩ := G.wf p hp'
      refine ⟨?_, fun q hq => ?_⟩
      · simp only [vstep, h1, Bool.false_or]
        cases hc : (mk a.t).contains p with
        | false => rfl
        | true =>
          have := hfree p (List.contains_iff_mem.1 hc)
          rw [this] at hp'
          cases hp'
      · simp only [vstep, h2 q hq, Bool.true_or]
  · intro w' hw' s' hs' paths hps p hp
    have := G.files w' hw' s' hs' paths hps p hp
    simp only [vstep]
    split
    · rfl
    · exact this
  · intro w' hw' s' hs' sp' paths hps hown c hc
    simp only [vstep] at hc
    split at hc
    · rename_i hcond
      have hpt : s'.ent.fullTarget = a.t := by
        rcases hcond with h | h
        · exact h
        · exact hAt _ h
      cases hc
      have hr := S.range w hw s hs
      rw [upd_length _ _ _ _ (by omega), aL]
      exact S.same _ hse _ (S.ent w' hw' s' hs') sp sp' (by rw [← at_, hpt])
    · exact G.ownLen w' hw' s' hs' sp' paths hps hown c hc

/-- a critical section of the piece `w1` leaves the reads of another piece `w2` as they were: a candidate of `w2` that
    is no export image shares no file with the written image; the own image of a segment of `w2`, when it is the
    written image, has the declared length already (so `set_len` does nothing) and is written outside that
    segment's range -/
theorem frame_vstep {table : List TEntry} {work : List Work} (S : Stat table work) {v : View} (G : Good table work v)
    {w1 w2 : Work} (hw1 : w1 ∈ work) (hw2 : w2 ∈ work) (hpc : PC w1 w2) {a : Sec} (ha : IsSecOf w1 a) :
    ReadAgree v.F (vstep v a).F w2 := by
  obtain ⟨s, hs, sp, at_, aL, ao, ad⟩ := ha
  have hse := S.ent w1 hw1 s hs
  have hAt : ∀ p, v.A p a.t = true → p = a.t := by
    intro p hp
    have := G.alias s.ent hse sp p (by rw [← at_]; exact G.inv.sym _ _ hp)
    rw [this, at_]
  intro s2 hs2 sp2 paths hps p hp
  unfold rdF
  simp only [vstep]
  split
  · rename_i hcond
    have hpt : p = a.t := by
      rcases hcond with h | h
      · exact h
      · exact hAt _ h
    rcases S.cross w2 hw2 s2 hs2 sp2 paths hps p hp with hown | hfor
    · -- the own image of `s2`
      have hsome := G.files w2 hw2 s2 hs2 paths hps p hp
      obtain ⟨c, hc⟩ := Option.isSome_iff_exists.1 hsome
      have hlen := G.ownLen w2 hw2 s2 hs2 sp2 paths hps (by rw [← hown]; exact hp) c (by rw [← hown]; exact hc)
      have hr := S.range w1 hw1 s hs
      have hsame := S.same _ hse _ (S.ent w2 hw2 s2 hs2) sp sp2 (by rw [← at_, ← hpt, hown])
      have hd := hpc s hs s2 hs2 sp sp2 (by rw [← at_, ← hpt, hown])
      rw [← hpt, hc]
      simp only [Option.getD_some]
      exact (rd_upd a.L a.off a.d c s2.off s2.len (by rw [hlen, aL, hsame]) (by omega) (by omega)).symm
    · exact absurd (hpt.trans at_) (hfor s.ent hse sp)
  · rfl

theorem vcrit_some {v v' : View} {a : Sec} (h : vcrit v a = some v') : vok v a = true ∧ v' = vstep v a := by
  rw [vcrit_eq] at h
  split at h
  · rename_i hok
    cases h
    exact ⟨hok, rfl⟩
  · cases h

theorem vrun_good {table : List TEntry} {work : List Work} (S : Stat table work) (l : List Sec) :
    ∀ (v v' : View), Good table work v → (∀ a ∈ l, ∃ w ∈ work, IsSecOf w a) → vrun v l = some v' →
      Good table work v' := by
  induction l with
  | nil => intro v v' G _ h; cases h; exact G
  | cons a l ih =>
    intro v v' G hl h
    simp only [vrun] at h
    cases h1 : vcrit v a with
    | none => rw [h1] at h; cases h
    | some v1 =>
      rw [h1] at h
      obtain ⟨hok, rfl⟩ := vcrit_some h1
      obtain ⟨w, hw, ha⟩ := hl a List.mem_cons_self
      exact ih _ _ (good_vstep S G hw ha hok) (fun b hb => hl b (List.mem_cons_of_mem _ hb)) h

theorem vrun_frame {table : List TEntry} {work : List Work} (S : Stat table work) {w1 w2 : Work}
    (hw1 : w1 ∈ work) (hw2 : w2 ∈ work) (hpc : PC w1 w2) (l : List Sec) :
    ∀ (v v' : View), Good table work v → (∀ a ∈ l, IsSecOf w1 a) → vrun v l = some v' → ReadAgree v.F v'.F w2 := by
  induction l with
  | nil => intro v v' _ _ h; cases h; exact ReadAgree.refl _ _
  | cons a l ih =>
    intro v v' G hl h
    simp only [vrun] at h
    cases h1 : vcrit v a with
    | none => rw [h1] at h; cases h
    | some v1 =>
      rw [h1] at h
      obtain ⟨hok, rfl⟩ := vcrit_some h1
      have ha := hl a List.mem_cons_self
      exact (frame_vstep S G hw1 hw2 hpc ha).trans
        (ih _ _ (good_vstep S G hw1 ha hok) (fun b hb => hl b (List.mem_cons_of_mem _ hb)) h)

theorem comp_of_good {table : List TEntry} {work : List Work} (S : Stat table work) {v : View} (G : Good table work v)
    {w1 w2 : Work} (hw1 : w1 ∈ work) (hw2 : w2 ∈ work) (hpc : PC w1 w2) {a b : Sec} (ha : IsSecOf w1 a)
    (hb : IsSecOf w2 b) : Comp v a b := by
  obtain ⟨s, hs, sp, at_, aL, ao, ad⟩ := ha
  obtain ⟨t, ht, tp, bt, bL, bo, bd⟩ := hb
  have hse := S.ent w1 hw1 s hs
  have hte := S.ent w2 hw2 t ht
  have r1 := S.range w1 hw1 s hs
  have r2 := S.range w2 hw2 t ht
  refine ⟨by omega, by omega, fun e => ?_, fun e => ⟨?_, ?_⟩⟩
  · have e' : s.ent.fullTarget = t.ent.fullTarget := by rw [← at_, ← bt]; exact e
    have := S.same _ hse _ hte sp tp e'
    have := hpc s hs t ht sp tp e'
    exact ⟨by omega, by omega⟩
  · cases h : v.A a.t b.t with
    | false => rfl
    | true =>
      have := G.alias _ hse sp b.t (by rw [← at_]; exact h)
      exact absurd (this.trans at_.symm).symm e
  · cases h : v.A b.t a.t with
    | false => rfl
    | true =>
      have := G.alias _ hte tp a.t (by rw [← bt]; exact h)
      exact absurd (this.trans bt.symm) e

open Classical in
/-- the critical sections a piece runs and its answer, as a function of the bytes behind the names; `none` when the
    matched buffer does not reach the end of a written segment (the writer then reports an I/O error) -/
noncomputable def secsP (H : Bytes → Bytes) (F : Path → Option Bytes) (w : Work) : Option (List Sec × Solved) :=
  match pMatch H F w with
  | .panic => some ([], .panic)
  | .notFound => some ([], .notFound)
  | .hit pairs buf => if bufOk pairs buf 0 then some (secsOf pairs buf 0, .found) else none

theorem secsP_congr (H : Bytes → Bytes) {F F' : Path → Option Bytes} {w : Work} (h : ReadAgree F F' w) :
    secsP H F w = secsP H F' w := by
  unfold secsP
  rw [pMatch_congr H h]

theorem secsP_secs {H : Bytes → Bytes} {F : Path → Option Bytes} {w : Work} {l : List Sec} {r : Solved}
    (h : secsP H F w = some (l, r)) : ∀ a ∈ l, IsSecOf w a := by
  unfold secsP at h
  split at h
  · cases h; intro a ha; cases ha
  · cases h; intro a ha; cases ha
  · rename_i pairs buf hm
    split at h
    · cases h
      intro a ha
      obtain ⟨x, hx, xp, xt, xL, xo, xd⟩ := mem_secsOf _ _ _ _ ha
      exact ⟨x.1, pMatch_pairs_mem hm x hx, xp, xt, xL, xo, xd⟩
    · cases h

/-- the evaluation of one piece on the observable part of the tree; `none` = the writer reports an I/O error -/
noncomputable def vstepP (H : Bytes → Bytes) (v : View) (w : Work) : Option (View × Solved) :=
  (secsP H v.F w).bind (fun lr => (vrun v lr.1).map (fun v' => (v', lr.2)))

theorem vstepP_good {table : List TEntry} {work : List Work} (S : Stat table work) {H : Bytes → Bytes} {v v' : View}
    (G : Good table work v) {w : Work} (hw : w ∈ work) {r : Solved} (h : vstepP H v w = some (v', r)) :
    Good table work v' := by
  unfold vstepP at h
  cases h1 : secsP H v.F w with
  | none => rw [h1] at h; cases h
  | some lr =>
    rw [h1] at h
    simp only [Option.bind_some] at h
    cases h2 : vrun v lr.1 with
    | none => rw [h2] at h; cases h
    | some v1 =>
      rw [h2] at h
      cases h
      exact vrun_good S _ _ _ G (fun a ha => ⟨w, hw, secsP_secs (l := lr.1) (r := lr.2) h1 a ha⟩) h2

theorem vstepP_frame {table : List TEntry} {work : List Work} (S : Stat table work) {H : Bytes → Bytes} {v v' : View}
    (G : Good table work v) {w1 w2 : Work} (hw1 : w1 ∈ work) (hw2 : w2 ∈ work) (hpc : PC w1 w2) {r : Solved}
    (h : vstepP H v w1 = some (v', r)) : ReadAgree v.F v'.F w2 := by
  unfold vstepP at h
  cases h1 : secsP H v.F w1 with
  | none => rw [h1] at h; cases h
  | some lr =>
    rw [h1] at h
    simp only [Option.bind_some] at h
    cases h2 : vrun v lr.1 with
    | none => rw [h2] at h; cases h
    | some v1 =>
      rw [h2] at h
      cases h
      exact vrun_frame S hw1 hw2 hpc _ _ _ G (secsP_secs (l := lr.1) (r := lr.2) h1) h2

/-- two pieces one after the other -/
noncomputable def two (H : Bytes → Bytes) (v : View) (x y : Work) : Option (View × Solved × Solved) :=
  (vstepP H v x).bind (fun a => (vstepP H a.1 y).map (fun b => (b.1, a.2, b.2)))

theorem two_eq {table : List TEntry} {work : List Work} (S : Stat table work) (H : Bytes → Bytes) {v : View}
    (G : Good table work v) {x y : Work} (hx : x ∈ work) (hy : y ∈ work) (hpc : PC x y) :
    two H v x y = (secsP H v.F x).bind (fun a => (secsP H v.F y).bind (fun b =>
      (vrun v (a.1 ++ b.1)).map (fun v' => (v', a.2, b.2)))) := by
  unfold two vstepP
  cases h1 : secsP H v.F x with
  | none => rfl
  | some a =>
    simp only [Option.bind_some]
    cases h2 : vrun v a.1 with
    | none =>
      simp only [Option.map_none, Option.bind_none, vrun_append, h2]
      cases secsP H v.F y <;> rfl
    | some v1 =>
      have hfr := vrun_frame S hx hy hpc a.1 v v1 G (secsP_secs (l := a.1) (r := a.2) h1) h2
      simp only [Option.map_some, Option.bind_some, ← secsP_congr H hfr, vrun_append, h2]
      cases secsP H v.F y with
      | none => rfl
      | some b =>
        simp only [Option.bind_some]
        cases vrun v1 b.1 <;> rfl

theorem two_comm {table : List TEntry} {work : List Work} (S : Stat table work) (H : Bytes → Bytes) {v : View}
    (G : Good table work v) {x y : Work} (hx : x ∈ work) (hy : y ∈ work) (hpc : PC x y) :
    two H v x y = (two H v y x).map (fun t => (t.1, t.2.2, t.2.1)) := by
  rw [two_eq S H G hx hy hpc, two_eq S H G hy hx hpc.symm]
  cases h1 : secsP H v.F x with
  | none => cases secsP H v.F y <;> rfl
  | some a =>
    cases h2 : secsP H v.F y with
    | none => rfl
    | some b =>
      simp only [Option.bind_some]
      have hsw := vrun_block_swap G.inv a.1 b.1 [] (fun s hs t ht =>
        comp_of_good S G hx hy hpc (secsP_secs (l := a.1) (r := a.2) h1 s hs) (secsP_secs (l := b.1) (r := b.2) h2 t ht))
      simp only [List.append_nil] at hsw
      rw [hsw]
      cases vrun v (b.1 ++ a.1) <;> rfl

/-! ### any order, for a step function whose steps commute

  `f` is the step, `ev` its iteration over a list (given by its two equations), `o` what is observed of a state, `I` an
  invariant, `M` the admissible arguments, `ok` the answers after which the invariant is kept, `R` the relation under
  which two steps commute. -/

section AnyOrder
variable {σ ω α β : Type} {f : σ → α → σ × β} {ev : σ → List α → σ × List (α × β)}
  (ev_nil : ∀ s, ev s [] = (s, []))
  (ev_cons : ∀ s a l, ev s (a :: l) = ((ev (f s a).1 l).1, (a, (f s a).2) :: (ev (f s a).1 l).2))
  {o : σ → ω} {I : σ → Prop} {M : α → Prop} {ok : β → Prop} {R : α → α → Prop}
  (hinv : ∀ s a, I s → M a → ok (f s a).2 → I (f s a).1)
  (hstep : ∀ s s' a, I s → I s' → o s = o s' → M a → ok (f s a).2 →
    (f s' a).2 = (f s a).2 ∧ o (f s a).1 = o (f s' a).1)
  (hcomm : ∀ s a b, I s → M a → M b → R a b → ok (f s a).2 → ok (f (f s a).1 b).2 →
    (f s b).2 = (f (f s a).1 b).2 ∧ (f (f s b).1 a).2 = (f s a).2 ∧ o (f (f s a).1 b).1 = o (f (f s b).1 a).1)
include ev_nil ev_cons hinv hstep

theorem ev_congr : ∀ (l : List α) (s s' : σ), I s → I s' → o s = o s' → (∀ a ∈ l, M a) →
    (∀ x ∈ (ev s l).2, ok x.2) → (ev s' l).2 = (ev s l).2 ∧ o (ev s l).1 = o (ev s' l).1 := by
  intro l
  induction l with
  | nil => intro s s' _ _ e _ _; rw [ev_nil, ev_nil]; exact ⟨rfl, e⟩
  | cons a l ih =>
    intro s s' hs hs' e hM hok
    rw [ev_cons s] at hok ⊢
    rw [ev_cons s']
    have ha := hM a List.mem_cons_self
    have h1 : ok (f s a).2 := hok _ List.mem_cons_self
    obtain ⟨e2, e1⟩ := hstep s s' a hs hs' e ha h1
    obtain ⟨t2, t1⟩ := ih _ _ (hinv s a hs ha h1) (hinv s' a hs' ha (e2 ▸ h1)) e1
      (fun b hb => hM b (List.mem_cons_of_mem _ hb)) (fun x hx => hok x (List.mem_cons_of_mem _ hx))
    exact ⟨by rw [e2, t2], t1⟩

include hcomm

theorem ev_perm (hR : ∀ a b, R a b → R b a) {l l' : List α} (hp : l.Perm l') : ∀ (s : σ), I s →
    l.Pairwise R → (∀ a ∈ l, M a) → (∀ x ∈ (ev s l).2, ok x.2) →
    (ev s l).2.Perm (ev s l').2 ∧ o (ev s l).1 = o (ev s l').1 := by
  induction hp with
  | nil => intro s _ _ _ _; exact ⟨.refl _, rfl⟩
  | cons a _ ih =>
    intro s hs hpw hM hok
    rw [ev_cons] at hok
    rw [ev_cons, ev_cons]
    obtain ⟨t2, t1⟩ := ih _ (hinv s a hs (hM a List.mem_cons_self) (hok _ List.mem_cons_self))
      (List.pairwise_cons.1 hpw).2 (fun b hb => hM b (List.mem_cons_of_mem _ hb))
      (fun x hx => hok x (List.mem_cons_of_mem _ hx))
    exact ⟨t2.cons _, t1⟩
  | swap a b l =>
    -- `b`, `a` against `a`, `b`: the two steps commute at `s`, the rest starts from states that look the same
    intro s hs hpw hM hok
    have hb := hM b List.mem_cons_self
    have ha := hM a (List.mem_cons_of_mem _ List.mem_cons_self)
    rw [ev_cons s b, ev_cons (f s b).1 a] at hok ⊢
    rw [ev_cons s a, ev_cons (f s a).1 b]
    have k1 : ok (f s b).2 := hok _ List.mem_cons_self
    have k2 : ok (f (f s b).1 a).2 := hok _ (List.mem_cons_of_mem _ List.mem_cons_self)
    obtain ⟨c1, c2, c3⟩ := hcomm s b a hs hb ha ((List.pairwise_cons.1 hpw).1 a List.mem_cons_self) k1 k2
    have k3 : ok (f s a).2 := c1 ▸ k2
    obtain ⟨t2, t1⟩ := ev_congr ev_nil ev_cons hinv hstep l _ _ (hinv _ a (hinv s b hs hb k1) ha k2)
      (hinv _ b (hinv s a hs ha k3) hb (c2 ▸ k1)) c3
      (fun c hc => hM c (List.mem_cons_of_mem _ (List.mem_cons_of_mem _ hc)))
      (fun x hx => hok x (List.mem_cons_of_mem _ (List.mem_cons_of_mem _ hx)))
    rw [t2, c2, c1]
    exact ⟨.swap _ _ _, t1⟩
  | trans h1 _ ih1 ih2 =>
    intro s hs hpw hM hok
    obtain ⟨p1, q1⟩ := ih1 s hs hpw hM hok
    obtain ⟨p2, q2⟩ := ih2 s hs (h1.pairwise hpw (hR _ _)) (fun a ha => hM a (h1.symm.subset ha))
      (fun x hx => hok x (p1.symm.subset hx))
    exact ⟨p1.trans p2, q1.trans q2⟩

end AnyOrder

/-- candidates of `w` are regular files in `fs` -/
def FilesOk (fs : Fs) (w : Work) : Prop :=
  ∀ s ∈ w.segs, ∀ paths, s.ent.searches = some paths → ∀ p ∈ paths, ∃ i, fs.look p = .file i

theorem solvePiece_view (H : Bytes → Bytes) (st : St) (w : Work) (hf : st.faults = []) (hwf : FsWF st.fs)
    (hfiles : FilesOk st.fs w) :
    (solvePiece H st w).1.faults = [] ∧ FsWF (solvePiece H st w).1.fs ∧
    ((solvePiece H st w).2 ≠ .fault →
      vstepP H (view st.fs) w = some (view (solvePiece H st w).1.fs, (solvePiece H st w).2)) ∧
    (vstepP H (view st.fs) w ≠ none → (solvePiece H st w).2 ≠ .fault) := by
  refine ⟨(solvePiece_trace H st w).reach.faults.trans hf, C04a_wf_preserved H st w hwf, ?_⟩
  obtain ⟨st1, e1, f1, hs⟩ := solvePiece_pure H st w hf hfiles
  rw [hs]
  unfold vstepP secsP
  cases hm : pMatch H (view st.fs).F w with
  | panic =>
    simp only [afterMatch, Option.bind_some, vrun, Option.map_some, e1]
    exact ⟨fun _ => trivial, fun _ h => by cases h⟩
  | notFound =>
    simp only [afterMatch, Option.bind_some, vrun, Option.map_some, e1]
    exact ⟨fun _ => trivial, fun _ h => by cases h⟩
  | hit pairs buf =>
    simp only [afterMatch]
    have hwf1 : FsWF st1.fs := by rw [e1]; exact hwf
    constructor
    · intro hne
      have hfound : (writeSegs st1 pairs buf 0).2 = .found := by
        rcases writeSegs_found_or_fault st1 pairs buf 0 with h | h
        · exact h
        · exact absurd h hne
      obtain ⟨c, _, hb⟩ := writeSegs_crits pairs st1 _ buf 0 f1 (Prod.ext rfl hfound)
      have hv := (crits_view hwf1 (secsOf pairs buf 0)).1
      rw [c, e1] at hv
      rw [if_pos hb]
      simp only [Option.bind_some, ← hv, Option.map_some, hfound]
    · intro hsome
      by_cases hb : bufOk pairs buf 0
      · rw [if_pos hb] at hsome
        simp only [Option.bind_some] at hsome
        have hv := (crits_view hwf1 (secsOf pairs buf 0)).1
        rw [e1] at hv
        cases hc : st1.fs.crits (secsOf pairs buf 0) with
        | none =>
          rw [e1] at hc
          rw [hc] at hv
          rw [← hv] at hsome
          exact absurd rfl hsome
        | some fs' =>
          rw [writeSegs_found_of_crits pairs st1 fs' buf 0 f1 hc hb]
          intro h; cases h
      · rw [if_neg hb] at hsome
        exact absurd rfl hsome

/-- a segment's own export image, when it is among the segment's candidates, has the declared length in `fs` -/
def OwnLen (fs : Fs) (w : Work) : Prop :=
  ∀ s ∈ w.segs, s.ent.isPad = false → ∀ paths, s.ent.searches = some paths → s.ent.fullTarget ∈ paths →
    ∀ i, fs.inoOf s.ent.fullTarget = some i → (fs.content i).length = s.ent.fileLength

theorem good_of_fs {table : List TEntry} {work : List Work} {fs : Fs} (hwf : FsWF fs) (hna : NoAlias fs table)
    (hfiles : ∀ w ∈ work, FilesOk fs w) (hown : ∀ w ∈ work, OwnLen fs w) : Good table work (view fs) := by
  refine ⟨vinv_view fs, ?_, ?_, ?_, ?_⟩
  · intro e he hp q hq
    have hq' : ((fs.inoOf e.fullTarget).isSome && fs.inoOf e.fullTarget == fs.inoOf q) = true := hq
    simp only [Bool.and_eq_true, beq_iff_eq] at hq'
    obtain ⟨i, hi⟩ := Option.isSome_iff_exists.1 hq'.1
    exact hna e he hp q i hi (by rw [← hq'.2, hi])
  · intro p hp
    have hp' : ((fs.inoOf p).map fs.content).isSome = true := hp
    rw [Option.isSome_map] at hp'
    obtain ⟨i, hi⟩ := Option.isSome_iff_exists.1 hp'
    have hm := RunF.inoOf_mem hi
    exact ⟨hwf.2.2.1 p i hm, hwf.2.2.2 p i hm⟩
  · intro w hw s hs paths hps p hp
    obtain ⟨i, hi⟩ := hfiles w hw s hs paths hps p hp
    rw [F_of_look hi]
    rfl
  · intro w hw s hs sp paths hps hmem c hc
    have hc' : (fs.inoOf s.ent.fullTarget).map fs.content = some c := hc
    rw [Option.map_eq_some_iff] at hc'
    obtain ⟨i, hi, rfl⟩ := hc'
    exact hown w hw s hs sp paths hps hmem i hi

theorem filesOk_of_good {table : List TEntry} {work : List Work} {fs : Fs} (G : Good table work (view fs))
    {w : Work} (hw : w ∈ work) : FilesOk fs w := by
  intro s hs paths hps p hp
  have hsome := G.files w hw s hs paths hps p hp
  have hp' : ((fs.inoOf p).map fs.content).isSome = true := hsome
  rw [Option.isSome_map] at hp'
  obtain ⟨i, hi⟩ := Option.isSome_iff_exists.1 hp'
  obtain ⟨hd, hpre⟩ := G.wf p hsome
  refine ⟨i, RunF.look_file_of (fun q hq => Option.not_isSome_iff_eq_none.1 fun hqs => ?_) hd hi⟩
  have hqd : (view fs).D q = true := hpre q hq
  have hqF : ((view fs).F q).isSome = true := by
    show ((fs.inoOf q).map fs.content).isSome = true
    rw [Option.isSome_map]; exact hqs
  rw [(G.wf q hqF).1] at hqd
  cases hqd

theorem solvePiece_congr (H : Bytes → Bytes) (st st' : St) (w : Work) (hf : st.faults = []) (hf' : st'.faults = [])
    (hwf : FsWF st.fs) (hwf' : FsWF st'.fs) (hfiles : FilesOk st.fs w) (hfiles' : FilesOk st'.fs w)
    (hv : view st.fs = view st'.fs) (hne : (solvePiece H st w).2 ≠ .fault) :
    (solvePiece H st' w).2 = (solvePiece H st w).2 ∧
    view (solvePiece H st w).1.fs = view (solvePiece H st' w).1.fs := by
  obtain ⟨_, _, a, _⟩ := solvePiece_view H st w hf hwf hfiles
  obtain ⟨_, _, a', b'⟩ := solvePiece_view H st' w hf' hwf' hfiles'
  have h1 := a hne
  rw [hv] at h1
  have h2 := a' (b' (by rw [h1]; intro h; cases h))
  rw [h1] at h2
  simp only [Option.some.injEq, Prod.mk.injEq] at h2
  exact ⟨h2.2.symm, h2.1⟩

/-- `two_comm` on states: if the order `w1`, `w2` meets no I/O error, each piece gets in the other order the answer it
    gets in this one, and the two final trees are observationally equivalent -/
theorem two_pieces {table : List TEntry} {work : List Work} (S : Stat table work) (H : Bytes → Bytes) (st : St)
    (hf : st.faults = []) (hwf : FsWF st.fs) (G : Good table work (view st.fs)) {w1 w2 : Work}
    (hw1 : w1 ∈ work) (hw2 : w2 ∈ work) (hpc : PC w1 w2)
    (h1 : (solvePiece H st w1).2 ≠ .fault) (h12 : (solvePiece H (solvePiece H st w1).1 w2).2 ≠ .fault) :
    (solvePiece H st w2).2 = (solvePiece H (solvePiece H st w1).1 w2).2 ∧
    (solvePiece H (solvePiece H st w2).1 w1).2 = (solvePiece H st w1).2 ∧
    ObsEq (solvePiece H (solvePiece H st w1).1 w2).1.fs (solvePiece H (solvePiece H st w2).1 w1).1.fs := by
  obtain ⟨f1, wf1, a1, _⟩ := solvePiece_view H st w1 hf hwf (filesOk_of_good G hw1)
  have G1 := vstepP_good S G hw1 (a1 h1)
  obtain ⟨_, _, a12, _⟩ := solvePiece_view H _ w2 f1 wf1 (filesOk_of_good G1 hw2)
  obtain ⟨f2, wf2, a2, b2⟩ := solvePiece_view H st w2 hf hwf (filesOk_of_good G hw2)
  have ht : two H (view st.fs) w1 w2
      = some (view (solvePiece H (solvePiece H st w1).1 w2).1.fs, (solvePiece H st w1).2,
          (solvePiece H (solvePiece H st w1).1 w2).2) := by
    unfold two
    rw [a1 h1]
    simp only [Option.bind_some, a12 h12, Option.map_some]
  have hc := two_comm S H G hw2 hw1 hpc.symm
  rw [ht] at hc
  simp only [Option.map_some] at hc
  unfold two at hc
  have n2 : vstepP H (view st.fs) w2 ≠ none := by
    intro h; rw [h] at hc; cases hc
  have h2 := b2 n2
  have G2 := vstepP_good S G hw2 (a2 h2)
  obtain ⟨_, _, a21, b21⟩ := solvePiece_view H _ w1 f2 wf2 (filesOk_of_good G2 hw1)
  rw [a2 h2] at hc
  simp only [Option.bind_some] at hc
  have n21 : vstepP H (view (solvePiece H st w2).1.fs) w1 ≠ none := by
    intro h; rw [h] at hc; cases hc
  rw [a21 (b21 n21)] at hc
  simp only [Option.map_some, Option.some.injEq, Prod.mk.injEq] at hc
  exact ⟨hc.2.1, hc.2.2, (obsEq_iff_view _ _).2 hc.1.symm⟩

/-- evaluate the pieces one after the other, recording every answer (no stop at a panic) -/
def evalAll (H : Bytes → Bytes) : St → List Work → St × List (Work × Solved)
  | st, [] => (st, [])
  | st, w :: ws =>
    ((evalAll H (solvePiece H st w).1 ws).1, (w, (solvePiece H st w).2) :: (evalAll H (solvePiece H st w).1 ws).2)

/-- `ev_perm` on states: if evaluating `ws` from `st` meets no I/O error, evaluating any permutation `ws'` meets
    none, gives the same answers up to their order, and an observationally equivalent tree -/
theorem evalAll_perm {table : List TEntry} {work : List Work} (S : Stat table work) (H : Bytes → Bytes) (st : St)
    (hf : st.faults = []) (hwf : FsWF st.fs) (G : Good table work (view st.fs)) {ws ws' : List Work}
    (hp : List.Perm ws ws') (hpw : ws.Pairwise PC) (hmem : ∀ w ∈ ws, w ∈ work)
    (hok : ∀ x ∈ (evalAll H st ws).2, x.2 ≠ .fault) :
    (∀ x ∈ (evalAll H st ws').2, x.2 ≠ .fault) ∧ (evalAll H st ws).2.Perm (evalAll H st ws').2 ∧
    ObsEq (evalAll H st ws).1.fs (evalAll H st ws').1.fs := by
  have key := ev_perm (f := solvePiece H) (ev := evalAll H) (fun _ => rfl) (fun _ _ _ => rfl)
    (o := fun st => view st.fs) (I := fun st => st.faults = [] ∧ FsWF st.fs ∧ Good table work (view st.fs))
    (M := (· ∈ work)) (ok := (· ≠ .fault)) (R := PC)
    (fun s a ⟨f0, wf0, G0⟩ ha hne => by
      obtain ⟨f1, wf1, a1, _⟩ := solvePiece_view H s a f0 wf0 (filesOk_of_good G0 ha)
      exact ⟨f1, wf1, vstepP_good S G0 ha (a1 hne)⟩)
    (fun s s' a ⟨f0, wf0, G0⟩ ⟨f0', wf0', G0'⟩ e ha hne =>
      solvePiece_congr H s s' a f0 f0' wf0 wf0' (filesOk_of_good G0 ha) (filesOk_of_good G0' ha) e hne)
    (fun s a b ⟨f0, wf0, G0⟩ ha hb hpc h1 h12 => by
      obtain ⟨c1, c2, c3⟩ := two_pieces S H s f0 wf0 G0 ha hb hpc h1 h12
      exact ⟨c1, c2, (obsEq_iff_view _ _).1 c3⟩)
    (fun _ _ => PC.symm) hp st ⟨hf, hwf, G⟩ hpw hmem hok
  exact ⟨fun x hx => hok x (key.1.symm.subset hx), key.1, (obsEq_iff_view _ _).2 key.2⟩

/-- the running counters -/
def countersOf (c : Counters) : List Solved → List Counters
  | [] => []
  | r :: rs => c.bump r :: countersOf (c.bump r) rs

theorem solveAll_eq_evalAll (H : Bytes → Bytes) (ws : List Work) : ∀ (st : St) (c : Counters) (acc : List Counters),
    (∀ x ∈ (evalAll H st ws).2, x.2 ≠ .panic) →
    solveAll H st ws c acc = ((evalAll H st ws).1, acc ++ countersOf c ((evalAll H st ws).2.map (·.2)), false) := by
  induction ws with
  | nil => intro st c acc _; simp [solveAll, evalAll, countersOf]
  | cons w ws ih =>
    intro st c acc h
    simp only [evalAll] at h
    rw [RB.solveAll_cons, if_neg (h _ List.mem_cons_self), ih _ _ _ (fun x hx => h x (List.mem_cons_of_mem _ hx))]
    simp [evalAll, countersOf]

theorem bump_comm (c : Counters) (a b : Solved) : (c.bump a).bump b = (c.bump b).bump a := by
  cases a <;> cases b <;> rfl

theorem countersOf_getLast? (l : List Solved) : ∀ c, (countersOf c l).getLast? =
    if l.isEmpty then none else some (l.foldl Counters.bump c) := by
  induction l with
  | nil => intro c; rfl
  | cons r rs ih =>
    intro c
    cases rs with
    | nil => rfl
    | cons r2 rs2 =>
      have := ih (c.bump r)
      simp only [countersOf, List.isEmpty_cons, Bool.false_eq_true, if_false, List.foldl_cons] at this ⊢
      rw [List.getLast?_cons_cons]
      exact this

theorem foldl_bump_perm {l l' : List Solved} (h : l.Perm l') (c : Counters) :
    l.foldl Counters.bump c = l'.foldl Counters.bump c := by
  induction h generalizing c with
  | nil => rfl
  | cons x _ ih => exact ih _
  | swap x y l => simp only [List.foldl_cons]; rw [bump_comm]
  | trans _ _ ih1 ih2 => exact (ih1 c).trans (ih2 c)

theorem solveAll_flag (H : Bytes → Bytes) (ws : List Work) : ∀ (st : St) (c : Counters) (acc : List Counters),
    (solveAll H st ws c acc).2.2 = false → ∀ x ∈ (evalAll H st ws).2, x.2 ≠ .panic := by
  induction ws with
  | nil => intro st c acc _ x hx; cases hx
  | cons w ws ih =>
    intro st c acc h x hx
    rw [RB.solveAll_cons] at h
    split at h
    · cases h
    · rename_i hp
      simp only [evalAll] at hx
      rcases List.mem_cons.1 hx with rfl | hx
      · exact hp
      · exact ih _ _ _ h x hx

theorem countersOf_fault (l : List Solved) : ∀ c, (∀ k ∈ countersOf c l, k.fault = 0) → ∀ r ∈ l, r ≠ .fault := by
  induction l with
  | nil => intro c _ r hr; cases hr
  | cons a l ih =>
    intro c h r hr
    simp only [countersOf] at h
    rcases List.mem_cons.1 hr with rfl | hr
    · intro e
      have := h _ List.mem_cons_self
      rw [e] at this
      simp [Counters.bump] at this
    · exact ih _ (fun k hk => h k (List.mem_cons_of_mem _ hk)) r hr

theorem run_order (H : Bytes → Bytes) (inp : RunIn) (o : List (List (Nat × Nat × Nat) × Bytes)) :
    (run H { inp with order := o }).table = (run H inp).table ∧
    (run H { inp with order := o }).work = (run H inp).work ∧
    ((run H inp).work = [] →
      (run H { inp with order := o }).fs = (run H inp).fs ∧
      (run H { inp with order := o }).counters = (run H inp).counters ∧
      (run H { inp with order := o }).result = (run H inp).result) := by
  rw [RB.run_eq, RB.run_eq]
  simp only
  split
  · exact ⟨rfl, rfl, fun _ => ⟨rfl, rfl, rfl⟩⟩
  split
  · exact ⟨rfl, rfl, fun _ => ⟨rfl, rfl, rfl⟩⟩
  rename_i st1 _
  unfold RB.runAfter RB.runIndex
  simp only
  split
  · exact ⟨rfl, rfl, fun _ => ⟨rfl, rfl, rfl⟩⟩
  -- only `runSolve` sees the observed order, and only when there is something to evaluate
  generalize populateSearches _ _ _ = tbl
  generalize (addExportPaths _ [] _).1 = st3
  rcases RB.runSolve_cases H (dedupTorrents (sortTorrents inp.torrents)) o tbl with ⟨hn, h⟩ | ⟨work, ok, hw, h⟩ <;>
    rcases RB.runSolve_cases H (dedupTorrents (sortTorrents inp.torrents)) inp.order tbl with
      ⟨hn', h'⟩ | ⟨work', ok', hw', h'⟩ <;> rw [h, h']
  · exact ⟨rfl, rfl, fun _ => ⟨rfl, rfl, rfl⟩⟩
  · rw [hn] at hw'; cases hw'
  · rw [hn'] at hw; cases hw
  · cases hw.symm.trans hw'
    refine ⟨rfl, rfl, fun hnil => ?_⟩
    have hnil : work = [] := hnil
    subst hnil
    have e : ∀ ord, RunQ.evalOrder ([] : List Work) ord = [] := fun ord => by
      cases ord <;> rfl
    rw [e, e]
    exact ⟨rfl, rfl, rfl⟩

/-- every name in the cache is registered under the length of its file -/
def CL (fs : Fs) (c : Cache) : Prop := ∀ len m, (len, m) ∈ c → ∀ x ∈ m, (fs.content x.2).length = len

theorem cacheGet_mem_key {c : Cache} {len : Nat} {m : List (Path × Nat)} (h : cacheGet c len = some m) :
    (len, m) ∈ c := by
  unfold cacheGet at h
  rw [Option.map_eq_some_iff] at h
  obtain ⟨e, he, rfl⟩ := h
  have hk : e.1 = len := by simpa using List.find?_some he
  rw [← hk]
  exact List.mem_of_find?_eq_some he

theorem CL.nil (fs : Fs) : CL fs [] := by
  intro len m h; cases h

theorem CL.insert {fs : Fs} {c : Cache} (h : CL fs c) (len : Nat) (p : Path) {i : Nat}
    (hp : (fs.content i).length = len) : CL fs (cacheInsert c len p i) := by
  unfold cacheInsert
  cases hg : cacheGet c len with
  | none =>
    simp only
    intro l m hm x hx
    rcases List.mem_cons.1 hm with hm | hm
    · obtain ⟨rfl, rfl⟩ := Prod.mk.inj hm
      rw [List.mem_singleton] at hx
      subst hx
      exact hp
    · exact h l m hm x hx
  | some m0 =>
    simp only
    intro l m hm x hx
    rcases List.mem_cons.1 hm with hm | hm
    · obtain ⟨rfl, rfl⟩ := Prod.mk.inj hm
      rcases List.mem_cons.1 hx with rfl | hx
      · exact hp
      · exact h _ _ (cacheGet_mem_key hg) x (List.mem_filter.1 hx).1
    · exact h l m (List.mem_filter.1 hm).1 x hx

theorem addExportPaths_cl (fs : Fs) (st : St) (c : Cache) (table : List TEntry)
    (hfs : st.fs = fs) (hc : CL fs c) : CL fs (addExportPaths st c table).2 := by
  induction table generalizing st c with
  | nil => exact hc
  | cons e es ih =>
    rw [RunG.addExportPaths_cons]
    have hfs1 : (st.openr e.fullTarget).1.fs = fs := (RunI.openr_roext st e.fullTarget).fs.trans hfs
    split
    · exact ih st c hfs hc
    · split
      · exact ih _ c hfs1 hc
      · split
        · rename_i i hi
          split
          · rename_i hlen
            exact ih _ _ hfs1 (hc.insert e.fileLength e.fullTarget (by rw [← hfs1]; simpa using hlen))
          · exact ih _ c hfs1 hc
        · exact ih _ c hfs1 hc

theorem addByDirectory_cl {fs : Fs} {c : Cache} (hc : CL fs c) (dir : Path) (lengths : List Nat) :
    CL fs (addByDirectory fs c dir lengths) := by
  unfold addByDirectory
  have key : ∀ (l : List (Path × Nat)) c, CL fs c →
      CL fs (l.foldl (fun c e =>
        let len := (fs.content e.2).length
        if dir.length ≤ e.1.length && e.1.take dir.length == dir && e.1 != dir && lengths.contains len
        then cacheInsert c len e.1 e.2 else c) c) := by
    intro l
    induction l with
    | nil => intro c hc; exact hc
    | cons a l ih =>
      intro c hc
      rw [List.foldl_cons]
      apply ih
      simp only
      split
      · exact hc.insert _ _ rfl
      · exact hc
  exact key fs.files c hc

theorem scan_cl {fs : Fs} (lengths : List Nat) (scan : List PathArg) {c : Cache} (hc : CL fs c) :
    CL fs (scan.foldl (fun c d => addByDirectory fs c d.path lengths) c) := by
  induction scan generalizing c with
  | nil => exact hc
  | cons d ds ih => exact ih (addByDirectory_cl hc d.path lengths)

theorem cacheOf_cl (inp : RunIn) : CL (RB.runSt3 inp).fs (RunQ.cacheOf inp) := by
  have h32 : (RB.runSt3 inp).fs = (RB.runSt2 inp).fs := RunG.addExportPaths_fs _ _ _
  have c0 := addExportPaths_cl (RB.runSt3 inp).fs (RB.runSt2 inp) [] (RB.runTable0 inp) h32.symm (CL.nil _)
  exact scan_cl _ _ c0

theorem populate_len (c : Cache) (obs : List (Nat × List Path)) (es : List TEntry) :
    ∀ e' ∈ (populateSearches c obs es).1, ∀ paths, e'.searches = some paths →
      (∃ e ∈ es, e.searches = some paths) ∨
      (∃ m, cacheGet c e'.fileLength = some m ∧ ∀ p ∈ paths, ∃ i, (p, i) ∈ m) := by
  induction es with
  | nil => intro e' he'; simp [populateSearches] at he'
  | cons e es ih =>
    unfold populateSearches
    rcases hrest : populateSearches c obs es with ⟨rest, okRest⟩
    rw [hrest] at ih
    simp only at ih
    simp only []
    have tl : ∀ (h : TEntry), (∀ paths, h.searches = some paths →
          (∃ e0 ∈ e :: es, e0.searches = some paths) ∨
          (∃ m, cacheGet c h.fileLength = some m ∧ ∀ p ∈ paths, ∃ i, (p, i) ∈ m)) →
        ∀ e' ∈ h :: rest, ∀ paths, e'.searches = some paths →
          (∃ e0 ∈ e :: es, e0.searches = some paths) ∨
          (∃ m, cacheGet c e'.fileLength = some m ∧ ∀ p ∈ paths, ∃ i, (p, i) ∈ m) := by
      intro h hh e' he'
      rcases List.mem_cons.1 he' with rfl | he'
      · exact hh
      · intro paths hp
        rcases ih e' he' paths hp with ⟨e0, he0, h0⟩ | r
        · exact Or.inl ⟨e0, List.mem_cons_of_mem _ he0, h0⟩
        · exact Or.inr r
    have self : ∀ paths, e.searches = some paths →
          (∃ e0 ∈ e :: es, e0.searches = some paths) ∨
          (∃ m, cacheGet c e.fileLength = some m ∧ ∀ p ∈ paths, ∃ i, (p, i) ∈ m) :=
      fun paths hp => Or.inl ⟨e, List.mem_cons_self, hp⟩
    split
    · exact tl e self
    split
    · exact tl e self
    · rename_i m0 hm0
      split
      · rename_i o ho
        split
        · rename_i hv
          exact tl _ (fun paths hp => by
            simp only [Option.some.injEq] at hp
            subst hp
            exact Or.inr ⟨m0, hm0, RunI.validSearches_sub hv⟩)
        · exact tl _ (fun paths hp => by
            simp only [Option.some.injEq] at hp
            subst hp
            exact Or.inr ⟨m0, hm0, RunI.canonicalSearches_sub e m0⟩)
      · exact tl _ (fun paths hp => by
            simp only [Option.some.injEq] at hp
            subst hp
            exact Or.inr ⟨m0, hm0, RunI.canonicalSearches_sub e m0⟩)

theorem candidates_length (H : Bytes → Bytes) (inp : RunIn) (F : RunQ.Facts H inp) (hwf : FsWF inp.fs) :
    ∀ e ∈ (run H inp).table, ∀ paths, e.searches = some paths → ∀ p ∈ paths,
      ∃ i, (RB.runSt3 inp).fs.look p = .file i ∧ ((RB.runSt3 inp).fs.content i).length = e.fileLength := by
  have hwf3 : FsWF (RB.runSt3 inp).fs := F.loc.wf hwf
  have hcf := RunQ.cacheOf_cf inp hwf3
  have hcl := cacheOf_cl inp
  intro e he paths hps p hp
  rw [F.tab] at he
  rcases populate_len _ _ _ e he paths hps with ⟨e0, he0, h0⟩ | ⟨m, hm, hall⟩
  · rw [buildTable_searches _ _ _ e0 he0] at h0
    cases h0
  · obtain ⟨i, hi⟩ := hall p hp
    exact ⟨i, hcf.get hm _ hi, hcl _ _ (cacheGet_mem_key hm) _ hi⟩

end TB.RunZ
