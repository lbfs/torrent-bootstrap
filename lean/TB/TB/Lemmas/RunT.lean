/-
  The layout facts that the run-level preservation theorems assume (`SegsInRange`, `RangesDisjoint`, "same image,
  same length") derived from the torrents themselves. A lookup in a table built from torrents with pairwise
  distinct info-hashes finds the entry of the right torrent, so the work items of a torrent are its pieces segment
  by segment (`SegRel`, `WorkRel`). The C06 partition (`PieceOk`) puts a positive-length segment inside the window
  of its piece, so segments of different pieces in one file do not overlap. Two non-padding entries of one torrent
  with the same image are the same file (`PathsDistinct`).
-/
import TB.Spec.ExportSpec
import TB.Props.C06
import TB.Props.C10
import TB.Props.C12
import TB.Props.C16run
import TB.Props.C04h
import TB.Lemmas.RunH
import TB.Lemmas.RunB
namespace TB.RunT
open TB

theorem mem_index {α : Type} {l : List α} {a : α} (h : a ∈ l) : ∃ i : Nat, l[i]? = some a := by
  obtain ⟨i, hi, rfl⟩ := List.mem_iff_getElem.1 h
  exact ⟨i, List.getElem?_eq_getElem hi⟩

/-- pairwise distinct info-hashes (what sorting and `dedup_by` leave) -/
def HashDistinct (ts : List Torrent) : Prop := ts.Pairwise (fun a b => a.infoHash ≠ b.infoHash)

theorem HashDistinct.eq {ts : List Torrent} (h : HashDistinct ts) {a b : Torrent} (ha : a ∈ ts) (hb : b ∈ ts)
    (he : a.infoHash = b.infoHash) : a = b := by
  induction ts with
  | nil => cases ha
  | cons t ts ih =>
    unfold HashDistinct at h
    rw [List.pairwise_cons] at h
    rcases List.mem_cons.1 ha with rfl | ha'
    · rcases List.mem_cons.1 hb with rfl | hb'
      · rfl
      · exact absurd he (h.1 b hb')
    · rcases List.mem_cons.1 hb with rfl | hb'
      · exact absurd he.symm (h.1 a ha')
      · exact ih h.2 ha' hb'

theorem hashDistinct_dedup_sort (ts : List Torrent) : HashDistinct (dedupTorrents (sortTorrents ts)) := by
  have := RB.dedupTorrents_strict _ (RB.sortTorrents_sorted ts)
  unfold RB.TStrict at this
  refine List.Pairwise.imp ?_ this
  intro a b hlt he
  rw [he, RB.bytesLt_irrefl] at hlt
  cases hlt

theorem lookup_target {dir : Path} {all : List Torrent} {id0 : Nat} {t : Torrent} (hd : HashDistinct all)
    (ht : t ∈ all) {k : Nat} {e : TEntry} (h : lookupEntry (buildTable dir all id0) t.infoHash k = some e) :
    e.fileIndex = k ∧ IsTargetOf dir t e := by
  unfold lookupEntry at h
  have hp := List.find?_some h
  have hm := List.mem_of_find?_eq_some h
  simp only [Bool.and_eq_true, beq_iff_eq] at hp
  obtain ⟨t', ht', htar⟩ := buildTable_target dir all id0 e hm
  have : t' = t := hd.eq ht' ht (htar.1.symm.trans hp.1)
  subst this
  exact ⟨hp.2, htar⟩

/-- work segment `x` is layout segment `s` of torrent `t`: same range, and its entry is the table entry of file
    `s.file` of `t` -/
def SegRel (dir : Path) (t : Torrent) (s : Seg) (x : WSeg) : Prop :=
  x.len = s.len ∧ x.off = s.off ∧ x.ent.fileIndex = s.file ∧ IsTargetOf dir t x.ent

/-- work item `w` is piece `p` of torrent `t`, segment by segment -/
def WorkRel (dir : Path) (t : Torrent) (p : Piece) (w : Work) : Prop :=
  w.segs.length = p.segs.length ∧ ∀ (i : Nat) x, w.segs[i]? = some x → ∃ s, p.segs[i]? = some s ∧ SegRel dir t s x

theorem WorkRel.mem {dir : Path} {t : Torrent} {p : Piece} {w : Work} (h : WorkRel dir t p w) {x : WSeg}
    (hx : x ∈ w.segs) : ∃ s ∈ p.segs, SegRel dir t s x := by
  obtain ⟨i, hi⟩ := mem_index hx
  obtain ⟨s, hs, hr⟩ := h.2 i x hi
  exact ⟨s, List.mem_of_getElem? hs, hr⟩

theorem workOfPiece_rel {dir : Path} {all : List Torrent} {id0 : Nat} {t : Torrent} (hd : HashDistinct all)
    (ht : t ∈ all) {p : Piece} {w : Work} (h : workOfPiece (buildTable dir all id0) t p = some w) :
    WorkRel dir t p w := by
  unfold workOfPiece at h
  split at h
  · rename_i segs hm
    cases h
    obtain ⟨h1, h2⟩ := mapM_index hm
    refine ⟨h1, ?_⟩
    intro i x hx
    obtain ⟨s, hs, hf⟩ := h2 i x hx
    simp only [Option.map_eq_some_iff] at hf
    obtain ⟨e, he, rfl⟩ := hf
    obtain ⟨hk, htar⟩ := lookup_target hd ht he
    exact ⟨s, hs, rfl, rfl, hk, htar⟩
  · cases h

theorem workOfTorrent_rel (H : Bytes → Bytes) {dir : Path} {all : List Torrent} {id0 : Nat} {t : Torrent}
    (hd : HashDistinct all) (ht : t ∈ all) (hload : Loadable H t) {wt : List Work}
    (h : workOfTorrent (buildTable dir all id0) t = some wt) :
    ∃ ps, RunH.LayoutOk t ps ∧ wt.length = ps.length ∧
      ∀ (i : Nat) w, wt[i]? = some w → ∃ p, ps[i]? = some p ∧ WorkRel dir t p w := by
  obtain ⟨doc, hdoc⟩ := hload
  obtain ⟨ps, hps, hlay⟩ := RunH.layout_of_load H doc t hdoc
  unfold workOfTorrent at h
  rw [hps] at h
  simp only at h
  obtain ⟨h1, h2⟩ := mapM_index h
  refine ⟨ps, hlay, h1, ?_⟩
  intro i w hw
  obtain ⟨p, hp, hf⟩ := h2 i w hw
  exact ⟨p, hp, workOfPiece_rel hd ht hf⟩

theorem workOfTorrent_owned {dir : Path} {all : List Torrent} {id0 : Nat} {t : Torrent}
    (hd : HashDistinct all) (ht : t ∈ all) {wt : List Work}
    (h : workOfTorrent (buildTable dir all id0) t = some wt) :
    ∀ w ∈ wt, ∀ x ∈ w.segs, IsTargetOf dir t x.ent := by
  unfold workOfTorrent at h
  split at h
  · cases h
  · rename_i ps _
    intro w hw x hx
    obtain ⟨p, _, hf⟩ := mapM_option_mem h w hw
    obtain ⟨s, _, hr⟩ := (workOfPiece_rel hd ht hf).mem hx
    exact hr.2.2.2

theorem seg_window {L : Nat} {fl : List Nat} {hashes : List Bytes} {i : Nat} {p : Piece}
    (hok : PieceOk L fl hashes i p) {s : Seg} (hs : s ∈ p.segs) (hpos : 0 < s.len) :
    i * L ≤ base fl s.file + s.off ∧ base fl s.file + s.off + s.len ≤ i * L + L := by
  have hflat := hok.flat
  have hsub : ∀ a ∈ addr fl s, a ∈ List.range' (i * L) (min L (fl.sum - i * L)) := by
    intro a ha
    rw [← hflat]
    exact List.mem_flatMap.2 ⟨s, hs, ha⟩
  have h1 := hsub (base fl s.file + s.off) (by unfold addr; rw [List.mem_range'_1]; omega)
  have h2 := hsub (base fl s.file + s.off + s.len - 1) (by unfold addr; rw [List.mem_range'_1]; omega)
  rw [List.mem_range'_1] at h1 h2
  omega

/-- segments of different pieces inside one file do not overlap: the one of the earlier piece ends before the one
    of the later piece starts (zero-length segments belong to empty files, where everything is at offset 0) -/
theorem segs_disjoint {L : Nat} {fl : List Nat} {hashes : List Bytes} {i j : Nat} {p q : Piece}
    (hp : PieceOk L fl hashes i p) (hq : PieceOk L fl hashes j q) (hij : i < j)
    {s u : Seg} (hs : s ∈ p.segs) (hu : u ∈ q.segs) (hf : s.file = u.file) : s.off + s.len ≤ u.off := by
  obtain ⟨hs1, hs2, hs3⟩ := hp.seg hs
  obtain ⟨hu1, hu2, hu3⟩ := hq.seg hu
  have hfl : s.flen = u.flen := by
    rw [hf, ← hu1] at hs1
    exact Option.some.inj hs1
  by_cases h0 : s.len = 0
  · have := hs3 h0; omega
  by_cases h1 : u.len = 0
  · have := hu3 h1; omega
  have w1 := seg_window hp hs (by omega)
  have w2 := seg_window hq hu (by omega)
  have : (i + 1) * L ≤ j * L := Nat.mul_le_mul_right L hij
  rw [Nat.add_mul, Nat.one_mul] at this
  rw [hf] at w1
  omega

theorem seg_files_ne {L : Nat} {fl : List Nat} {hashes : List Bytes} {i : Nat} {p : Piece}
    (hok : PieceOk L fl hashes i p) {a b : Nat} {s u : Seg} (hs : p.segs[a]? = some s) (hu : p.segs[b]? = some u)
    (hab : a ≠ b) : s.file ≠ u.file := by
  have hincr := hok.files_incr
  rw [List.pairwise_map, List.pairwise_iff_getElem] at hincr
  obtain ⟨ha, rfl⟩ := List.getElem?_eq_some_iff.1 hs
  obtain ⟨hb, rfl⟩ := List.getElem?_eq_some_iff.1 hu
  rcases Nat.lt_or_gt_of_ne hab with h | h
  · have := hincr a b ha hb h; omega
  · have := hincr b a hb ha h; omega

/-- within torrent `t`, two different non-padding files have different paths. (Padding files — `.pad/<digits>` —
    are exempt: they are never read or written, and real torrents repeat their names.) -/
def PathsDistinct (t : Torrent) : Prop :=
  ∀ fs, t.info.files = some fs → ∀ (i j : Nat) (f g : FileRec), fs[i]? = some f → fs[j]? = some g → i ≠ j →
    isPaddingPath f.path = false → isPaddingPath g.path = false → f.path ≠ g.path

theorem target_index {dir : Path} {t : Torrent} {e₁ e₂ : TEntry} (hp : PathsDistinct t)
    (h₁ : IsTargetOf dir t e₁) (h₂ : IsTargetOf dir t e₂) (n₁ : e₁.isPad = false) (n₂ : e₂.isPad = false)
    (he : e₁.fullTarget = e₂.fullTarget) : e₁.fileIndex = e₂.fileIndex := by
  obtain ⟨_, ⟨l₁, hn₁, _, hi₁, _⟩ | ⟨fs₁, f, hf₁, hi₁, _, hp₁, ht₁⟩⟩ := h₁
  · obtain ⟨_, ⟨l₂, _, _, hi₂, _⟩ | ⟨fs₂, g, hf₂, _⟩⟩ := h₂
    · rw [hi₁, hi₂]
    · rw [hn₁] at hf₂; cases hf₂
  · obtain ⟨_, ⟨l₂, hn₂, _⟩ | ⟨fs₂, g, hf₂, hi₂, _, hp₂, ht₂⟩⟩ := h₂
    · rw [hn₂] at hf₁; cases hf₁
    · rw [hf₁] at hf₂
      cases hf₂
      apply Classical.byContradiction
      intro hne
      rw [ht₁, ht₂] at he
      exact hp fs₁ hf₁ _ _ f g hi₁ hi₂ hne (by rw [← hp₁]; exact n₁) (by rw [← hp₂]; exact n₂)
        (List.append_cancel_left he)

theorem target_length {dir : Path} {t : Torrent} {e₁ e₂ : TEntry}
    (h₁ : IsTargetOf dir t e₁) (h₂ : IsTargetOf dir t e₂) (hidx : e₁.fileIndex = e₂.fileIndex) :
    e₁.fileLength = e₂.fileLength := by
  obtain ⟨_, ⟨l₁, hn₁, hl₁, _, hlen₁, _⟩ | ⟨fs₁, f, hf₁, hi₁, hlen₁, _⟩⟩ := h₁
  · obtain ⟨_, ⟨l₂, _, hl₂, _, hlen₂, _⟩ | ⟨fs₂, g, hf₂, _⟩⟩ := h₂
    · rw [hl₁] at hl₂; cases hl₂; rw [hlen₁, hlen₂]
    · rw [hn₁] at hf₂; cases hf₂
  · obtain ⟨_, ⟨l₂, hn₂, _⟩ | ⟨fs₂, g, hf₂, hi₂, hlen₂, _⟩⟩ := h₂
    · rw [hn₂] at hf₁; cases hf₁
    · rw [hf₁] at hf₂
      cases hf₂
      rw [hidx, hi₂] at hi₁
      cases hi₁
      rw [hlen₁, hlen₂]

theorem segRel_flen {dir : Path} {t : Torrent} {fl : List Nat} {s : Seg} {x : WSeg}
    (hfl : (∃ l, t.info.files = none ∧ t.info.length = some l ∧ fl = [l])
       ∨ (∃ fs, t.info.files = some fs ∧ fl = fs.map (·.length)))
    (hs : some s.flen = fl[s.file]?) (hr : SegRel dir t s x) : x.ent.fileLength = s.flen := by
  obtain ⟨_, _, hidx, _, htar⟩ := hr
  rcases hfl with ⟨l, hf, hl, rfl⟩ | ⟨fs, hf, rfl⟩
  · rcases htar with ⟨l', _, hl', hi, hlen, _⟩ | ⟨fs', g, hf', _⟩
    · rw [hl] at hl'; cases hl'
      rw [← hidx, hi] at hs
      simp at hs
      rw [hlen, hs]
    · rw [hf] at hf'; cases hf'
  · rcases htar with ⟨l', hn, _⟩ | ⟨fs', g, hf', hi, hlen, _⟩
    · rw [hf] at hn; cases hn
    · rw [hf] at hf'; cases hf'
      rw [← hidx, List.getElem?_map, hi] at hs
      simp at hs
      rw [hlen, hs]

/-- the relation of the first clause of `RangesDisjoint` -/
def Apart (w v : Work) : Prop :=
  ∀ s ∈ w.segs, ∀ u ∈ v.segs, s.ent.isPad = false → u.ent.isPad = false → s.ent.fullTarget = u.ent.fullTarget →
    s.off + s.len ≤ u.off ∨ u.off + u.len ≤ s.off

theorem Apart.symm {w v : Work} (h : Apart w v) : Apart v w := by
  intro s hs u hu n1 n2 he
  exact (h u hu s hs n2 n1 he.symm).symm

theorem apart_of_owned {dir : Path} {t₁ t₂ : Torrent} {w v : Work} (hne : t₁.infoHash ≠ t₂.infoHash)
    (h₁ : ∀ x ∈ w.segs, IsTargetOf dir t₁ x.ent) (h₂ : ∀ x ∈ v.segs, IsTargetOf dir t₂ x.ent) : Apart w v := by
  intro s hs u hu _ _ he
  exact absurd he (C12_disjoint dir t₁ t₂ _ _ (h₁ s hs) (h₂ u hu) hne).1

theorem workOfTorrent_range (H : Bytes → Bytes) {dir : Path} {all : List Torrent} {id0 : Nat} {t : Torrent}
    (hd : HashDistinct all) (ht : t ∈ all) (hload : Loadable H t) {wt : List Work}
    (h : workOfTorrent (buildTable dir all id0) t = some wt) : ∀ w ∈ wt, SegsInRange w := by
  obtain ⟨ps, hlay, _, hrel⟩ := workOfTorrent_rel H hd ht hload h
  intro w hw x hx
  obtain ⟨i, hi⟩ := mem_index hw
  obtain ⟨p, hp, hwr⟩ := hrel i w hi
  obtain ⟨s, hs, hr⟩ := hwr.mem hx
  rcases hlay with rfl | ⟨fl, _, _, _, hok, hfl⟩
  · simp at hp
  · obtain ⟨hi', rfl⟩ := List.getElem?_eq_some_iff.1 hp
    obtain ⟨hs1, hs2, _⟩ := (hok i hi').seg hs
    rw [segRel_flen hfl hs1 hr, hr.1, hr.2.1]
    exact hs2

theorem workOfTorrent_apart (H : Bytes → Bytes) {dir : Path} {all : List Torrent} {id0 : Nat} {t : Torrent}
    (hd : HashDistinct all) (ht : t ∈ all) (hload : Loadable H t) (hpd : PathsDistinct t) {wt : List Work}
    (h : workOfTorrent (buildTable dir all id0) t = some wt) : wt.Pairwise Apart := by
  obtain ⟨ps, hlay, hlen, hrel⟩ := workOfTorrent_rel H hd ht hload h
  rw [List.pairwise_iff_getElem]
  intro i j hi hj hij
  obtain ⟨p, hp, hwp⟩ := hrel i _ (List.getElem?_eq_getElem hi)
  obtain ⟨q, hq, hwq⟩ := hrel j _ (List.getElem?_eq_getElem hj)
  rcases hlay with rfl | ⟨fl, hL, _, _, hok, _⟩
  · simp at hp
  · obtain ⟨hi', rfl⟩ := List.getElem?_eq_some_iff.1 hp
    obtain ⟨hj', rfl⟩ := List.getElem?_eq_some_iff.1 hq
    intro x hx y hy n1 n2 he
    obtain ⟨s, hs, hrs⟩ := hwp.mem hx
    obtain ⟨u, hu, hru⟩ := hwq.mem hy
    have hidx := target_index hpd hrs.2.2.2 hru.2.2.2 n1 n2 he
    rw [hrs.2.2.1, hru.2.2.1] at hidx
    have := segs_disjoint (hok i hi') (hok j hj') hij hs hu hidx
    rw [hrs.1, hrs.2.1, hru.2.1]
    exact .inl this

/-- second clause of `RangesDisjoint` for the work items of one loadable torrent with distinct paths -/
theorem workOfTorrent_images (H : Bytes → Bytes) {dir : Path} {all : List Torrent} {id0 : Nat} {t : Torrent}
    (hd : HashDistinct all) (ht : t ∈ all) (hload : Loadable H t) (hpd : PathsDistinct t) {wt : List Work}
    (h : workOfTorrent (buildTable dir all id0) t = some wt) :
    ∀ w ∈ wt, ∀ (a b : Nat) (x y : WSeg), w.segs[a]? = some x → w.segs[b]? = some y → a ≠ b →
      x.ent.isPad = false → y.ent.isPad = false → x.ent.fullTarget ≠ y.ent.fullTarget := by
  obtain ⟨ps, hlay, _, hrel⟩ := workOfTorrent_rel H hd ht hload h
  intro w hw a b x y hx hy hab n1 n2 he
  obtain ⟨i, hi⟩ := mem_index hw
  obtain ⟨p, hp, hwr⟩ := hrel i w hi
  rcases hlay with rfl | ⟨fl, _, _, _, hok, _⟩
  · simp at hp
  · obtain ⟨hi', rfl⟩ := List.getElem?_eq_some_iff.1 hp
    obtain ⟨s, hs, hrs⟩ := hwr.2 a x hx
    obtain ⟨u, hu, hru⟩ := hwr.2 b y hy
    have hidx := target_index hpd hrs.2.2.2 hru.2.2.2 n1 n2 he
    rw [hrs.2.2.1, hru.2.2.1] at hidx
    exact seg_files_ne (hok i hi') hs hu hab hidx

theorem convert_owned {dir : Path} {all : List Torrent} {id0 : Nat} (hd : HashDistinct all) {ts : List Torrent}
    (hsub : ∀ t ∈ ts, t ∈ all) {ws : List Work} (h : convertPiecesToWork (buildTable dir all id0) ts = some ws) :
    ∀ w ∈ ws, ∃ t ∈ ts, ∀ x ∈ w.segs, IsTargetOf dir t x.ent := by
  intro w hw
  obtain ⟨t, ht, wt, hwt, hwin⟩ := RunH.convert_mem h w hw
  exact ⟨t, ht, workOfTorrent_owned hd (hsub t ht) hwt w hwin⟩

theorem convert_range (H : Bytes → Bytes) {dir : Path} {all : List Torrent} {id0 : Nat} (hd : HashDistinct all)
    {ts : List Torrent} (hsub : ∀ t ∈ ts, t ∈ all) (hload : ∀ t ∈ ts, Loadable H t) {ws : List Work}
    (h : convertPiecesToWork (buildTable dir all id0) ts = some ws) : ∀ w ∈ ws, SegsInRange w := by
  intro w hw
  obtain ⟨t, ht, wt, hwt, hwin⟩ := RunH.convert_mem h w hw
  exact workOfTorrent_range H hd (hsub t ht) (hload t ht) hwt w hwin

theorem convert_images (H : Bytes → Bytes) {dir : Path} {all : List Torrent} {id0 : Nat} (hd : HashDistinct all)
    {ts : List Torrent} (hsub : ∀ t ∈ ts, t ∈ all) (hload : ∀ t ∈ ts, Loadable H t)
    (hpd : ∀ t ∈ ts, PathsDistinct t) {ws : List Work}
    (h : convertPiecesToWork (buildTable dir all id0) ts = some ws) :
    ∀ w ∈ ws, ∀ (a b : Nat) (x y : WSeg), w.segs[a]? = some x → w.segs[b]? = some y → a ≠ b →
      x.ent.isPad = false → y.ent.isPad = false → x.ent.fullTarget ≠ y.ent.fullTarget := by
  intro w hw
  obtain ⟨t, ht, wt, hwt, hwin⟩ := RunH.convert_mem h w hw
  exact workOfTorrent_images H hd (hsub t ht) (hload t ht) (hpd t ht) hwt w hwin

theorem convert_apart (H : Bytes → Bytes) {dir : Path} {all : List Torrent} {id0 : Nat} (hd : HashDistinct all)
    {ts : List Torrent} (hts : HashDistinct ts) (hsub : ∀ t ∈ ts, t ∈ all) (hload : ∀ t ∈ ts, Loadable H t)
    (hpd : ∀ t ∈ ts, PathsDistinct t) {ws : List Work}
    (h : convertPiecesToWork (buildTable dir all id0) ts = some ws) : ws.Pairwise Apart := by
  induction ts generalizing ws with
  | nil => simp [convertPiecesToWork] at h; subst h; exact List.Pairwise.nil
  | cons t ts ih =>
    unfold convertPiecesToWork at h
    split at h
    · rename_i a b ha hb
      cases h
      unfold HashDistinct at hts
      rw [List.pairwise_cons] at hts
      have hsub' : ∀ x ∈ ts, x ∈ all := fun x hx => hsub x (List.mem_cons_of_mem _ hx)
      rw [List.pairwise_append]
      refine ⟨workOfTorrent_apart H hd (hsub t List.mem_cons_self) (hload t List.mem_cons_self)
          (hpd t List.mem_cons_self) ha,
        ih hts.2 hsub' (fun x hx => hload x (List.mem_cons_of_mem _ hx))
          (fun x hx => hpd x (List.mem_cons_of_mem _ hx)) hb, ?_⟩
      intro w hw v hv
      obtain ⟨t', ht', hown⟩ := convert_owned hd hsub' hb v hv
      exact apart_of_owned (hts.1 t' ht') (workOfTorrent_owned hd (hsub t List.mem_cons_self) ha w hw) hown
    · cases h

theorem rangesDisjoint_of {ws : List Work} (h1 : ws.Pairwise Apart)
    (h2 : ∀ w ∈ ws, ∀ (a b : Nat) (x y : WSeg), w.segs[a]? = some x → w.segs[b]? = some y → a ≠ b →
      x.ent.isPad = false → y.ent.isPad = false → x.ent.fullTarget ≠ y.ent.fullTarget) :
    RangesDisjoint ws := by
  refine ⟨?_, h2⟩
  rw [List.pairwise_iff_getElem] at h1
  intro a b w v hw hv hab
  obtain ⟨ha, rfl⟩ := List.getElem?_eq_some_iff.1 hw
  obtain ⟨hb, rfl⟩ := List.getElem?_eq_some_iff.1 hv
  rcases Nat.lt_or_gt_of_ne hab with h | h
  · exact h1 a b ha hb h
  · exact (h1 b a hb ha h).symm

theorem table_same {dir : Path} {all : List Torrent} {id0 : Nat} (hd : HashDistinct all)
    (hpd : ∀ t ∈ all, PathsDistinct t) :
    ∀ e ∈ buildTable dir all id0, ∀ f ∈ buildTable dir all id0, e.isPad = false → f.isPad = false →
      e.fullTarget = f.fullTarget → e.fileLength = f.fileLength := by
  intro e he f hf n1 n2 heq
  obtain ⟨t₁, ht₁, h₁⟩ := buildTable_target dir all id0 e he
  obtain ⟨t₂, ht₂, h₂⟩ := buildTable_target dir all id0 f hf
  by_cases hh : t₁.infoHash = t₂.infoHash
  · have := hd.eq ht₁ ht₂ hh
    subst this
    exact target_length h₁ h₂ (target_index (hpd t₁ ht₁) h₁ h₂ n1 n2 heq)
  · exact absurd heq (C12_disjoint dir t₁ t₂ e f h₁ h₂ hh).1

end TB.RunT
