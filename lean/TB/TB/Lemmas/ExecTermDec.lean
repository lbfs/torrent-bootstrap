/-
  Every step between states satisfying `FullInv` decreases `measure` (C05, termination), by cases on the
  program counter (`measure_dec`). Most steps are instances of `dec_simple`; its last argument,
  the drop of the moving worker's rank, is read off the table `rankC`.
-/
import TB.Lemmas.ExecTermMeas
namespace TB.Exec.Term

variable {bal : Bal} {qs0 : List (List Nat)} {s s' : ExSt} {i : Nat}

/-- at `top`, a failed `try_lock` means the own queue lock is held by another worker -/
theorem held_of_top_busy (hI : Inv qs0 s) (hpc : s.pcs[i]? = some .top)
    (hbusy : ¬ (s.qlock[i]? == some none) = true) : heldOf s i = true := by
  rcases hI.qlock_cases (lt_of_getElem?_eq_some hpc) with hq | ⟨x, pcx, hq, hpcx, hm⟩
  · rw [hq] at hbusy; exact absurd rfl hbusy
  · unfold heldOf
    rw [hq]
    by_cases h : x = i
    · subst h; rw [hpc] at hpcx; cases hpcx; exact hm.elim
    · simpa using h

theorem not_held_of_holder (hI : Inv qs0 s) {pc : Pc} (hpc : s.pcs[i]? = some pc)
    (hS : holdsS pc = true) : heldOf s i = false := by
  unfold heldOf
  match hv : s.qlock[i]? with
  | none => rfl
  | some none => rfl
  | some (some h0) =>
    by_cases h : h0 = i
    · simp [h]
    · obtain ⟨pch, hpch, hh⟩ := hI.qHold i h0 hv
      exact absurd (hI.holder_unique hpc hpch hS (holdsS_of_mayHold_ne hh h)) h

theorem measure_dec_top (hI : FullInv qs0 s) (hI' : FullInv qs0 s') (hpc : s.pcs[i]? = some .top)
    (hs : step bal s i = some s') : mlt (measure s') (measure s) := by
  simp only [step, hpc] at hs
  split at hs <;> cases hs
  · have hil : i < s.queues.length := by rw [hI.safe.lenQ]; exact lt_of_getElem?_eq_some hpc
    have hqi := List.getElem?_eq_getElem hil
    generalize hq : s.queues[i]?.getD [] = q at *
    rw [hqi] at hq
    cases q with
    | nil =>
      -- the queue is empty: only the program counter and the own lock change
      have hQ : s.queues.set i ([] : List Nat).dropLast = s.queues := by
        have := List.set_getElem_self hil
        rwa [show s.queues[i] = [] from hq] at this
      refine dec_rank hI hI' hpc rfl hQ rfl (.inl ⟨rfl, rfl, rfl⟩) i 1 0 Nat.one_pos
        (fun k hk => .inl (.inl (List.getElem?_set_ne (Ne.symm hk)))) ?_
      rw [emptOf_eq_true (by rw [hqi]; exact hq)]
      exact rank_drop (Nat.le_refl 14)
    | cons a q =>
      -- an item is popped: the number of queued items drops, queued + in hand does not change
      have h1 := m1_add_solved hI.safe
      have h1' := m1_add_solved hI'.safe
      have hfl := (flatten_set_dropLast s.queues i (a :: q) (hqi.trans (congrArg some hq))).length_eq
      rw [List.getLast?_eq_some_getLast (List.cons_ne_nil a q), List.length_append] at hfl
      exact Or.inr ⟨Nat.add_right_cancel (h1'.trans h1.symm),
        Or.inl (Nat.lt_of_lt_of_eq (Nat.lt_add_of_pos_left Nat.one_pos) hfl)⟩
  · rename_i hbusy
    refine dec_simple hI hpc hI' (.inl ⟨rfl, rfl, rfl⟩) (fun _ _ => .inl rfl) ?_
    rw [held_of_top_busy hI.safe hpc hbusy]
    cases emptOf s i <;> exact rank_drop (Nat.le_of_ble_eq_true rfl)

theorem measure_dec_collect {j : Nat} (hI : FullInv qs0 s) (hI' : FullInv qs0 s')
    (hpc : s.pcs[i]? = some (.collect j)) (hs : step bal s i = some s') : mlt (measure s') (measure s) := by
  simp only [step, hpc] at hs
  split at hs
  · cases hs
    exact dec_simple hI hpc hI' (.inl ⟨rfl, rfl, rfl⟩) (fun _ _ => .inl rfl)
      (rank_drop (Nat.le_add_left 25 _))
  · rename_i t0 ht0
    split at hs <;> cases hs
    -- worker `t0`'s queue lock is taken (at most 7 on its rank) while the own rank drops by 8
    have hjm : j < (others i s.active).length := lt_of_getElem?_eq_some ht0
    exact dec_rank hI hI' hpc rfl rfl rfl (.inl ⟨rfl, rfl, rfl⟩) t0 8 7 (Nat.lt_succ_self 7)
      (fun k _ => if hk : k = t0 then .inr ⟨hk, Nat.le_refl 7⟩
        else .inl (.inl (List.getElem?_set_ne (Ne.symm hk))))
      (by simp only [rankC, setPc, setQLock]; omega)

theorem measure_dec_bal (hb : BalSpec bal) (hI : FullInv qs0 s) (hI' : FullInv qs0 s')
    (hpc : s.pcs[i]? = some .bal) (hs : step bal s i = some s') : mlt (measure s') (measure s) := by
  simp only [step, hpc] at hs
  cases hs
  have hin := lt_of_getElem?_eq_some hpc
  have hown : i < s.active ∧ s.queues[i]?.getD [] = [] := hI.own i _ hpc
  have hA : 0 < s.active := Nat.zero_lt_of_lt hown.1
  have hle : s.active ≤ s.queues.length := by rw [hI.safe.lenQ]; exact hI.safe.actLe
  have hE : effActive s = s.active := effActive_of_holder hI.safe hpc rfl
  have hE' : effActive _ = s.active - emptyTail (bal s.active s.queues) s.active :=
    effActive_of_holder hI'.safe (List.getElem?_set_self hin) rfl
  have h1 := m1_add_solved hI.safe
  have h1' := m1_add_solved hI'.safe
  refine Or.inr ⟨Nat.add_right_cancel (h1'.trans h1.symm),
    Or.inr ⟨(bal_flatten_perm hb hA hle).length_eq, Or.inl ?_⟩⟩
  -- after `balance` no queue below the new `effActive` is empty; before, the own queue was
  have h0 : m3 (setPc { s with queues := bal s.active s.queues } i
      (.release 0 (emptyTail (bal s.active s.queues) s.active))) = 0 := by
    unfold m3
    rw [List.length_eq_zero_iff, List.filter_eq_nil_iff, hE']
    intro k _ hk
    rw [Bool.and_eq_true, decide_eq_true_eq] at hk
    exact bal_nonempty hb hA hle hk.1 (List.isEmpty_iff.1 hk.2)
  have hpos : 0 < m3 s := by
    unfold m3
    refine List.length_pos_of_mem (a := i) (List.mem_filter.2 ⟨List.mem_range.2 hin, ?_⟩)
    rw [hE, hown.2, decide_eq_true hown.1]
    rfl
  exact Nat.lt_of_le_of_lt (Nat.le_of_eq h0) hpos

theorem measure_dec (hb : BalSpec bal) (hI : FullInv qs0 s) (hs : step bal s i = some s') :
    mlt (measure s') (measure s) := by
  have hI' := inv_step hb hI hs
  cases hpc : s.pcs[i]? with
  | none => simp [step, hpc] at hs
  | some pc =>
    have hown := hI.own i pc hpc
    cases pc with
    | top => exact measure_dec_top hI hI' hpc hs
    | collect j => exact measure_dec_collect hI hI' hpc hs
    | bal => exact measure_dec_bal hb hI hI' hpc hs
    | done => simp [step, hpc] at hs
    | popped item =>
      simp only [step, hpc] at hs
      cases hs
      cases item
      · exact dec_simple hI hpc hI' (.inl ⟨rfl, rfl, rfl⟩) (fun k _ => qlock_set_none_cases _ _ _)
          (rank_drop (by decide))
      · exact dec_simple hI hpc hI' (.inl ⟨rfl, rfl, rfl⟩) (fun k _ => qlock_set_none_cases _ _ _)
          (Nat.le_add_right 4 _)
    | solving x =>
      simp only [step, hpc] at hs
      cases hs
      have h1 := m1_add_solved hI.safe
      have h1' : m1 _ + (s.solved ++ [x]).length = _ := m1_add_solved hI'.safe
      rw [List.length_append, List.length_singleton, ← h1, ← Nat.add_assoc, Nat.add_right_comm] at h1'
      exact Or.inl (Nat.lt_of_succ_le (Nat.le_of_eq (Nat.add_right_cancel h1')))
    | wantState =>
      simp only [step, hpc] at hs
      split at hs <;> cases hs
      exact dec_simple hI hpc hI' (.inl ⟨rfl, rfl, rfl⟩) (fun _ _ => .inl rfl) (rank_drop (by decide))
    | haveState =>
      simp only [step, hpc] at hs
      split at hs <;> cases hs
      · exact dec_simple hI hpc hI' (.inl ⟨rfl, rfl, rfl⟩) (fun _ _ => .inl rfl)
          (Nat.le_add_right 10 _)
      · exact dec_simple hI hpc hI' (.inl ⟨rfl, rfl, rfl⟩) (fun _ _ => .inl rfl)
          (rank_drop (by decide))
    | exiting =>
      simp only [step, hpc] at hs
      cases hs
      exact dec_simple hI hpc hI' (.inl ⟨rfl, rfl, rfl⟩) (fun _ _ => .inl rfl) (Nat.le_add_left 1 8)
    | wantLocal =>
      simp only [step, hpc] at hs
      split at hs <;> cases hs
      exact dec_simple hI hpc hI' (.inl ⟨rfl, rfl, rfl⟩)
        (fun k hk => .inl (List.getElem?_set_ne (Ne.symm hk))) (rank_drop (by decide))
    | haveLocal =>
      simp only [step, hpc] at hs
      split at hs <;> cases hs <;> rename_i hlen
      · exact dec_simple hI hpc hI' (.inl ⟨rfl, rfl, rfl⟩) (fun _ _ => .inl rfl)
          (Nat.le_add_right 8 _)
      · -- the queue is empty and `i < active`: the rank at `haveLocal` includes the large term
        refine dec_simple hI hpc hI' (.inl ⟨rfl, rfl, rfl⟩) (fun _ _ => .inl rfl) ?_
        have hm := Nat.le_trans (others_length_le i s.active) hI.safe.actLe
        have hE : effActive s = s.active := effActive_of_holder hI.safe hpc rfl
        rw [hE, emptOf_eq_true (List.eq_nil_of_length_eq_zero (Nat.eq_zero_of_not_pos hlen))]
        simp only [rankC, show i < s.active from hown, decide_true, Bool.and_self, ↓reduceIte]
        omega
    | cont1 =>
      simp only [step, hpc] at hs
      cases hs
      exact dec_simple hI hpc hI' (.inl ⟨rfl, rfl, rfl⟩) (fun k _ => qlock_set_none_cases _ _ _)
        (Nat.le_refl 7)
    | cont2 =>
      simp only [step, hpc] at hs
      cases hs
      refine dec_simple hI hpc hI' (.inl ⟨rfl, rfl, rfl⟩) (fun _ _ => .inl rfl) ?_
      -- back at `top` with a non-empty queue whose lock nobody else holds
      show rankC _ (heldOf s i) _ _ _ _ + 1 ≤ _
      rw [emptOf_eq_false hown, not_held_of_holder hI.safe hpc rfl, Bool.and_false]
      exact Nat.le_refl 6
    | release j d =>
      simp only [step, hpc] at hs
      split at hs <;> cases hs <;> rename_i hj
      · exact dec_simple hI hpc hI' (.inr ⟨rfl, rfl, rfl⟩) (fun k _ => qlock_set_none_cases _ _ _)
          (Nat.add_le_add_left (Nat.sub_lt_sub_left (Nat.lt_of_lt_of_le hj hI.safe.actLe) (Nat.lt_succ_self j)) 17)
      · exact dec_simple hI hpc hI' (.inr ⟨rfl, rfl, rfl⟩) (fun _ _ => .inl rfl)
          (Nat.le_add_right 17 _)
    | dec d =>
      simp only [step, hpc] at hs
      cases hs
      exact dec_simple hI hpc hI' (.inr ⟨rfl, rfl, rfl⟩) (fun _ _ => .inl rfl) (Nat.le_refl 16)
    | unlockState =>
      simp only [step, hpc] at hs
      cases hs
      refine dec_simple hI hpc hI' (.inl ⟨rfl, rfl, rfl⟩) (fun _ _ => .inl rfl) ?_
      -- the own queue is not empty or the worker has been deactivated: no large term at `top`
      have hE : effActive s = s.active := effActive_of_holder hI.safe hpc rfl
      have hw : (decide (i < effActive s) && emptOf s i) = false := by
        rw [hE]
        rcases hown with h | h
        · rw [emptOf_eq_false h, Bool.and_false]
        · rw [decide_eq_false (Nat.not_lt.2 h), Bool.false_and]
      rw [hw]
      cases emptOf s i <;> cases heldOf _ i <;> exact Nat.le_of_ble_eq_true rfl

end TB.Exec.Term
