/-
  The file-system algebra behind C04a: names and inodes, `look`, the effect of `mkdirs` / `openCreate` /
  `setData` on a well-formed tree, and the local-change relation `Loc`.
-/
import TB.Spec.ExportSpec
import TB.Lemmas.RunB
import TB.Lemmas.RunDBase
namespace TB.RunF
open TB

/-! ### well-formed trees (same body as `TB.FsWF` in `TB.Props.C04a`) -/

def WF (fs : Fs) : Prop :=
  (∀ p i, (p, i) ∈ fs.files → i < fs.next) ∧
  (fs.files.map (·.1)).Nodup ∧
  (∀ p i, (p, i) ∈ fs.files → fs.isDir p = false) ∧
  (∀ p i, (p, i) ∈ fs.files → ∀ q ∈ Fs.properPrefixes p, fs.isDir q = true)

theorem inoOf_mem {fs : Fs} {p : Path} {i : Nat} (h : fs.inoOf p = some i) : (p, i) ∈ fs.files := by
  obtain ⟨e, hf, rfl⟩ := Option.map_eq_some_iff.1 h
  have h1 : (e.1 == p) = true := List.find?_some (p := fun e : Path × Nat => e.1 == p) hf
  rw [← beq_iff_eq.1 h1]
  exact List.mem_of_find?_eq_some hf

theorem inoOf_none {fs : Fs} {p : Path} (h : fs.inoOf p = none) : ∀ e ∈ fs.files, e.1 ≠ p := by
  unfold Fs.inoOf at h
  simp only [Option.map_eq_none_iff, List.find?_eq_none] at h
  intro e he hp
  exact h e he (by simp [hp])

theorem inoOf_lt {fs : Fs} (hwf : WF fs) {p : Path} {i : Nat} (h : fs.inoOf p = some i) : i < fs.next :=
  hwf.1 p i (inoOf_mem h)

theorem inoOf_notDir {fs : Fs} (hwf : WF fs) {p : Path} {i : Nat} (h : fs.inoOf p = some i) : fs.isDir p = false :=
  hwf.2.2.1 p i (inoOf_mem h)

theorem wf_dir_not_file {fs : Fs} (hwf : WF fs) {q : Path} (h : fs.isDir q = true) : fs.inoOf q = none := by
  cases hq : fs.inoOf q with
  | none => rfl
  | some i => rw [inoOf_notDir hwf hq] at h; cases h

theorem look_eq (fs : Fs) (p : Path) :
    fs.look p = if (Fs.properPrefixes p).any (fun q => (fs.inoOf q).isSome) then .notDir
      else if fs.isDir p then .dir
      else match fs.inoOf p with | some i => .file i | none => .notFound := by
  unfold Fs.look
  split
  · rfl
  · split
    · rfl
    · cases fs.inoOf p with
      | some i => rfl
      | none => simp

theorem any_file_false {fs : Fs} {l : List Path} :
    l.any (fun q => (fs.inoOf q).isSome) = false ↔ ∀ q ∈ l, fs.inoOf q = none := by
  rw [List.any_eq_false]
  exact forall₂_congr fun q _ => by cases fs.inoOf q <;> simp

theorem look_of_prefixes_free {fs : Fs} {t : Path} (h : ∀ q ∈ Fs.properPrefixes t, fs.inoOf q = none) :
    fs.look t = if fs.isDir t then .dir else match fs.inoOf t with | some i => .file i | none => .notFound := by
  rw [look_eq, any_file_false.2 h, if_neg Bool.false_ne_true]

theorem look_prefixes_free {fs : Fs} {p : Path} (h : fs.look p ≠ .notDir) :
    ∀ q ∈ Fs.properPrefixes p, fs.inoOf q = none := by
  rw [look_eq] at h
  split at h
  · exact absurd rfl h
  · exact any_file_false.1 (Bool.eq_false_iff.2 ‹_›)

theorem look_file {fs : Fs} {p : Path} {i : Nat} (h : fs.look p = .file i) :
    (∀ q ∈ Fs.properPrefixes p, fs.inoOf q = none) ∧ fs.isDir p = false ∧ fs.inoOf p = some i := by
  have hp := look_prefixes_free (by rw [h]; exact Look.noConfusion)
  rw [look_of_prefixes_free hp] at h
  split at h
  · cases h
  · refine ⟨hp, Bool.eq_false_iff.2 ‹_›, ?_⟩
    cases hi : fs.inoOf p <;> rw [hi] at h <;> cases h
    rfl

theorem look_file_of {fs : Fs} {p : Path} {i : Nat} (h1 : ∀ q ∈ Fs.properPrefixes p, fs.inoOf q = none)
    (h2 : fs.isDir p = false) (h3 : fs.inoOf p = some i) : fs.look p = .file i := by
  rw [look_of_prefixes_free h1, h2, h3, if_neg Bool.false_ne_true]

theorem look_notFound_prefix {fs : Fs} {p : Path} (h : fs.look p = .notFound) :
    ∀ q ∈ Fs.properPrefixes p, fs.inoOf q = none :=
  look_prefixes_free (by rw [h]; exact Look.noConfusion)

theorem look_notFound {fs : Fs} {p : Path} (h : fs.look p = .notFound) :
    fs.isDir p = false ∧ fs.inoOf p = none := by
  rw [look_of_prefixes_free (look_notFound_prefix h)] at h
  split at h
  · cases h
  · refine ⟨Bool.eq_false_iff.2 ‹_›, ?_⟩
    cases hi : fs.inoOf p <;> rw [hi] at h <;> cases h

theorem look_file_inoOf {fs : Fs} {p : Path} {i : Nat} (h : fs.look p = .file i) : fs.inoOf p = some i :=
  (look_file h).2.2

theorem look_congr {fs fs' : Fs} (hf : fs'.files = fs.files) (hd : fs'.dirs = fs.dirs) (p : Path) :
    fs'.look p = fs.look p := by
  unfold Fs.look Fs.inoOf Fs.isDir
  rw [hf, hd]

theorem mem_properPrefixes {p q : Path} : q ∈ Fs.properPrefixes p ↔ ∃ n, 1 ≤ n ∧ n < p.length ∧ q = p.take n := by
  unfold Fs.properPrefixes
  simp only [List.mem_map, List.mem_drop_iff_getElem, List.getElem_range]
  constructor
  · rintro ⟨n, ⟨k, hk, rfl⟩, rfl⟩
    simp at hk
    exact ⟨1 + k, by omega, by omega, rfl⟩
  · rintro ⟨n, h1, h2, rfl⟩
    refine ⟨n, ⟨n - 1, by simp; omega, by omega⟩, rfl⟩

theorem properPrefix_ne {p q : Path} (h : q ∈ Fs.properPrefixes p) : q ≠ p := by
  obtain ⟨n, _, h2, rfl⟩ := mem_properPrefixes.1 h
  intro e
  have := congrArg List.length e
  simp at this
  omega

/-- the proper prefixes of `p` are among the directories `create_dir_all(parent(p))` makes -/
theorem properPrefixes_sub_dropLast {p q : Path} (h : q ∈ Fs.properPrefixes p) :
    q ∈ Fs.properPrefixes p.dropLast ++ [p.dropLast] := by
  obtain ⟨n, h1, h2, rfl⟩ := mem_properPrefixes.1 h
  rw [List.mem_append, List.mem_singleton]
  by_cases hn : n = p.length - 1
  · right
    rw [List.dropLast_eq_take, hn]
  · left
    refine mem_properPrefixes.2 ⟨n, h1, by simp; omega, ?_⟩
    rw [List.dropLast_eq_take, List.take_take, Nat.min_eq_left (by omega)]

theorem prefix_of_mem {p d : Path} (h : d ∈ Fs.properPrefixes p ++ [p]) : Path.isPrefixOf d p := by
  rcases List.mem_append.1 h with h | h
  · obtain ⟨n, _, _, rfl⟩ := mem_properPrefixes.1 h
    exact ⟨p.drop n, (List.take_append_drop n p).symm⟩
  · rw [List.mem_singleton] at h
    subst h
    exact ⟨[], (List.append_nil _).symm⟩

theorem prefix_dropLast {t t' : Path} (h : Path.isPrefixOf t' t.dropLast) : t' = [] ∨ t' ∈ Fs.properPrefixes t := by
  obtain ⟨rest, hr⟩ := h
  by_cases h0 : t'.length = 0
  · exact Or.inl (List.eq_nil_of_length_eq_zero h0)
  · right
    have hl := congrArg List.length hr
    simp only [List.length_dropLast, List.length_append] at hl
    refine mem_properPrefixes.2 ⟨t'.length, by omega, by omega, ?_⟩
    have : t.take t'.length = t.dropLast.take t'.length := by
      rw [List.dropLast_eq_take, List.take_take, Nat.min_eq_left (by omega)]
    rw [this, hr, List.take_left]

theorem mem_dropLast_prefixes {t q : Path} (h : q ∈ Fs.properPrefixes t.dropLast ++ [t.dropLast]) :
    q = [] ∨ q ∈ Fs.properPrefixes t :=
  prefix_dropLast (prefix_of_mem h)

theorem isDir_cons (fs : Fs) (q p : Path) :
    ({ fs with dirs := q :: fs.dirs } : Fs).isDir p = (fs.isDir p || p == q) := by
  unfold Fs.isDir
  simp only [List.contains_cons]
  cases p.isEmpty <;> cases (p == q) <;> cases fs.dirs.contains p <;> rfl

theorem mkdirsAux_exact (l : List Path) : ∀ (fs fs' : Fs), Fs.mkdirsAux fs l = some fs' →
    fs'.files = fs.files ∧ fs'.data = fs.data ∧ fs'.next = fs.next ∧
    ∀ p, fs'.isDir p = (fs.isDir p || l.contains p) := by
  induction l with
  | nil =>
    intro fs fs' h
    simp only [Fs.mkdirsAux, Option.some.injEq] at h
    subst h
    exact ⟨rfl, rfl, rfl, fun p => by simp⟩
  | cons q rest ih =>
    intro fs fs' h
    simp only [Fs.mkdirsAux] at h
    split at h
    · rename_i hq
      obtain ⟨h1, h2, h3, h4⟩ := ih _ _ h
      refine ⟨h1, h2, h3, fun p => ?_⟩
      rw [h4, List.contains_cons]
      by_cases hp : p = q
      · subst hp; simp [hq]
      · have : (p == q) = false := by simpa using hp
        simp [this]
    · split at h
      · cases h
      · obtain ⟨h1, h2, h3, h4⟩ := ih _ _ h
        refine ⟨h1, h2, h3, fun p => ?_⟩
        rw [h4, isDir_cons, List.contains_cons, Bool.or_assoc]

theorem mkdirsAux_isSome_iff (l : List Path) : ∀ (fs : Fs),
    (Fs.mkdirsAux fs l).isSome = true ↔ ∀ q ∈ l, fs.isDir q = true ∨ fs.inoOf q = none := by
  induction l with
  | nil => intro fs; simp [Fs.mkdirsAux]
  | cons q rest ih =>
    intro fs
    rw [List.forall_mem_cons]
    simp only [Fs.mkdirsAux]
    split
    · rename_i hq
      rw [ih]
      exact (and_iff_right (Or.inl hq)).symm
    · rename_i hq
      cases hn : fs.inoOf q with
      | some _ => rw [if_pos (Option.isSome_some)]; exact ⟨fun h => (by cases h), fun h => h.1.elim (absurd · hq) nofun⟩
      | none =>
        rw [if_neg (by rw [Option.isSome_none]; exact Bool.false_ne_true), ih, and_iff_right (Or.inr rfl)]
        -- the new directory `q` was not a regular file
        refine forall₂_congr fun x _ => ?_
        rw [isDir_cons, Bool.or_eq_true, beq_iff_eq]
        exact ⟨fun h => h.elim (·.elim Or.inl fun e => Or.inr (e ▸ hn)) Or.inr, Or.imp_left Or.inl⟩

theorem mkdirs_ok_iff (fs : Fs) (d : Path) :
    (fs.mkdirs d).2 = true ↔ ∀ q ∈ Fs.properPrefixes d ++ [d], fs.isDir q = true ∨ fs.inoOf q = none := by
  rw [← mkdirsAux_isSome_iff]
  unfold Fs.mkdirs
  split <;> rename_i h <;> rw [h] <;> rfl

theorem mkdirs_fail {fs : Fs} {d : Path} (h : (fs.mkdirs d).2 = false) : (fs.mkdirs d).1 = fs := by
  revert h
  unfold Fs.mkdirs
  split
  · exact fun h => by cases h
  · exact fun _ => rfl

theorem mkdirs_exact {fs : Fs} (d : Path) (h : (fs.mkdirs d).2 = true) :
    (fs.mkdirs d).1.files = fs.files ∧ (fs.mkdirs d).1.data = fs.data ∧ (fs.mkdirs d).1.next = fs.next ∧
    ∀ p, (fs.mkdirs d).1.isDir p = (fs.isDir p || (Fs.properPrefixes d ++ [d]).contains p) := by
  unfold Fs.mkdirs at h ⊢
  split at h
  · rename_i fs' e
    exact mkdirsAux_exact _ _ _ e
  · cases h

theorem mkdirs_spec (fs : Fs) (d : Path) :
    (fs.mkdirs d).1.files = fs.files ∧ (fs.mkdirs d).1.data = fs.data ∧ (fs.mkdirs d).1.next = fs.next ∧
    (∀ q, fs.isDir q = true → (fs.mkdirs d).1.isDir q = true) ∧
    (∀ q, (fs.mkdirs d).1.isDir q = true →
      fs.isDir q = true ∨ (fs.inoOf q = none ∧ q ∈ Fs.properPrefixes d ++ [d])) ∧
    ((fs.mkdirs d).2 = true → ∀ q ∈ Fs.properPrefixes d ++ [d], (fs.mkdirs d).1.isDir q = true) := by
  cases h : (fs.mkdirs d).2 with
  | false =>
    rw [mkdirs_fail h]
    exact ⟨rfl, rfl, rfl, fun _ h => h, fun _ h => Or.inl h, fun h => by cases h⟩
  | true =>
    obtain ⟨h1, h2, h3, h4⟩ := mkdirs_exact d h
    refine ⟨h1, h2, h3, fun q hq => by rw [h4, hq]; rfl, fun q hq => ?_,
      fun _ q hq => by rw [h4, List.contains_iff_mem.2 hq, Bool.or_true]⟩
    rw [h4, Bool.or_eq_true, List.contains_iff_mem] at hq
    rcases hq with hq | hq
    · exact Or.inl hq
    · exact ((mkdirs_ok_iff fs d).1 h q hq).imp_right fun hn => ⟨hn, hq⟩

theorem mkdirs_ok_isDir {fs : Fs} {d : Path} (h : (fs.mkdirs d).2 = true) :
    ∀ q ∈ Fs.properPrefixes d ++ [d], (fs.mkdirs d).1.isDir q = true :=
  (mkdirs_spec fs d).2.2.2.2.2 h

theorem mkdirs_isDir_cases {fs : Fs} {d q : Path} (h : (fs.mkdirs d).1.isDir q = true) :
    fs.isDir q = true ∨ (fs.inoOf q = none ∧ q ∈ Fs.properPrefixes d ++ [d]) :=
  (mkdirs_spec fs d).2.2.2.2.1 q h

theorem mkdirs_parent_ok {fs : Fs} {t : Path} (h : ∀ q ∈ Fs.properPrefixes t, fs.inoOf q = none) :
    (fs.mkdirs t.dropLast).2 = true :=
  (mkdirs_ok_iff fs _).2 fun q hq => (mem_dropLast_prefixes hq).elim (fun e => Or.inl (e ▸ rfl)) fun hq => Or.inr (h q hq)

theorem inoOf_congr {fs fs' : Fs} (hf : fs'.files = fs.files) (p : Path) : fs'.inoOf p = fs.inoOf p := by
  unfold Fs.inoOf; rw [hf]

theorem content_congr {fs fs' : Fs} (hf : fs'.data = fs.data) (i : Nat) : fs'.content i = fs.content i := by
  unfold Fs.content; rw [hf]

/-- what `openCreate` does when the name is free and the parent is a directory -/
def addFile (fs : Fs) (t : Path) : Fs :=
  { fs with files := (t, fs.next) :: fs.files, data := (fs.next, []) :: fs.data, next := fs.next + 1 }

theorem openCreate_cases (fs : Fs) (t : Path) :
    (fs.openCreate t).1 = fs ∨
    (fs.look t = .notFound ∧ fs.isDir t.dropLast = true ∧ (fs.openCreate t).1 = addFile fs t) := by
  unfold Fs.openCreate
  split
  · left; rfl
  · split
    · right; exact ⟨by assumption, by assumption, rfl⟩
    · left; rfl
  · left; rfl

theorem inoOf_addFile (fs : Fs) (t p : Path) :
    (addFile fs t).inoOf p = if t = p then some fs.next else fs.inoOf p := by
  unfold addFile Fs.inoOf
  simp only [List.find?_cons]
  by_cases h : t = p
  · simp [h]
  · have : (t == p) = false := by simpa using h
    simp [this, h]

theorem inoOf_addFile_some {fs : Fs} {t q : Path} {j : Nat} (h : (addFile fs t).inoOf q = some j) :
    (q = t ∧ j = fs.next) ∨ (q ≠ t ∧ fs.inoOf q = some j) := by
  rw [inoOf_addFile] at h
  split at h
  · rename_i e; cases h; exact Or.inl ⟨e.symm, rfl⟩
  · rename_i e; exact Or.inr ⟨fun e' => e e'.symm, h⟩

theorem isDir_addFile (fs : Fs) (t p : Path) : (addFile fs t).isDir p = fs.isDir p := rfl

theorem content_addFile (fs : Fs) (t : Path) (i : Nat) (h : i ≠ fs.next) :
    (addFile fs t).content i = fs.content i := by
  unfold addFile Fs.content
  have : (fs.next == i) = false := by simpa using fun e => h e.symm
  simp only [List.find?_cons, this]

theorem content_addFile_new (fs : Fs) (t : Path) : (addFile fs t).content fs.next = [] := by
  simp [addFile, Fs.content]

theorem openCreate_file {fs : Fs} {t : Path} {i : Nat} (h : fs.look t = .file i) : fs.openCreate t = (fs, some i) := by
  unfold Fs.openCreate; rw [h]

theorem openCreate_new {fs : Fs} {t : Path} (h : fs.look t = .notFound) (hd : fs.isDir t.dropLast = true) :
    fs.openCreate t = (addFile fs t, some fs.next) := by
  unfold Fs.openCreate; rw [h]; simp only [hd, if_true]; rfl

theorem look_addFile {fs : Fs} {t : Path} (h : fs.look t = .notFound) : (addFile fs t).look t = .file fs.next := by
  refine look_file_of (fun q hq => ?_) (look_notFound h).1 (by rw [inoOf_addFile, if_pos rfl])
  rw [inoOf_addFile, if_neg (fun e => properPrefix_ne hq e.symm), look_notFound_prefix h q hq]

/-- `fs'` arises from the well-formed tree `fs` by creating directories, creating files named in `T`, and
    rewriting the content of files named in `T` -/
structure Loc (T : Path → Prop) (fs fs' : Fs) : Prop where
  next_le : fs.next ≤ fs'.next
  ino_pres : ∀ p i, fs.inoOf p = some i → fs'.inoOf p = some i
  ino_new : ∀ p i, fs'.inoOf p = some i → fs.inoOf p = some i ∨ (T p ∧ fs.next ≤ i)
  wf : WF fs → WF fs'
  look_pres : WF fs → ∀ p i, fs.look p = .file i → fs'.look p = .file i
  content : ∀ i, i < fs.next → (∀ t, T t → fs.inoOf t ≠ some i) → fs'.content i = fs.content i

theorem Loc.refl (T : Path → Prop) (fs : Fs) : Loc T fs fs :=
  ⟨Nat.le_refl _, fun _ _ h => h, fun _ _ h => Or.inl h, fun h => h, fun _ _ _ h => h, fun _ _ _ => rfl⟩

theorem Loc.trans {T : Path → Prop} {a b c : Fs} (h1 : Loc T a b) (h2 : Loc T b c) : Loc T a c := by
  refine ⟨Nat.le_trans h1.next_le h2.next_le, fun p i h => h2.ino_pres p i (h1.ino_pres p i h), ?_,
    fun h => h2.wf (h1.wf h), fun hwf p i h => h2.look_pres (h1.wf hwf) p i (h1.look_pres hwf p i h), ?_⟩
  · intro p i h
    rcases h2.ino_new p i h with h | ⟨ht, hle⟩
    · exact h1.ino_new p i h
    · exact Or.inr ⟨ht, Nat.le_trans h1.next_le hle⟩
  · intro i hi hT
    rw [h2.content i (Nat.lt_of_lt_of_le hi h1.next_le) ?_, h1.content i hi hT]
    intro t ht h
    rcases h1.ino_new t i h with h | ⟨_, hle⟩
    · exact hT t ht h
    · omega

theorem Loc.mono {T T' : Path → Prop} {a b : Fs} (h : Loc T a b) (hTT : ∀ p, T p → T' p) : Loc T' a b := by
  refine ⟨h.next_le, h.ino_pres, ?_, h.wf, h.look_pres, ?_⟩
  · intro p i hp
    rcases h.ino_new p i hp with h | ⟨ht, hle⟩
    · exact Or.inl h
    · exact Or.inr ⟨hTT p ht, hle⟩
  · intro i hi hT
    exact h.content i hi (fun t ht => hT t (hTT t ht))

theorem Loc.of_eq {T : Path → Prop} {a b : Fs} (h : b = a) : Loc T a b := by
  subst h; exact Loc.refl T _

theorem mkdirs_isDir_file {fs : Fs} {d p : Path} (hd : fs.isDir p = false) (hp : fs.inoOf p ≠ none) :
    (fs.mkdirs d).1.isDir p = false := by
  cases hd' : (fs.mkdirs d).1.isDir p with
  | false => rfl
  | true =>
    rcases mkdirs_isDir_cases hd' with h | ⟨h, _⟩
    · rw [hd] at h; cases h
    · exact absurd h hp

theorem loc_mkdirs (T : Path → Prop) (fs : Fs) (d : Path) : Loc T fs (fs.mkdirs d).1 := by
  obtain ⟨h1, h2, h3, h4, _, _⟩ := mkdirs_spec fs d
  have hino : ∀ p, (fs.mkdirs d).1.inoOf p = fs.inoOf p := inoOf_congr h1
  refine ⟨by rw [h3]; exact Nat.le_refl _, fun p i h => by rw [hino]; exact h,
    fun p i h => Or.inl (by rw [← hino]; exact h), ?_, ?_, fun i _ _ => content_congr h2 i⟩
  · intro hwf
    refine ⟨by rw [h1, h3]; exact hwf.1, by rw [h1]; exact hwf.2.1, ?_, ?_⟩
    · intro p i hp
      rw [h1] at hp
      exact mkdirs_isDir_file (hwf.2.2.1 p i hp) fun h => inoOf_none h _ hp rfl
    · intro p i hp q hq
      rw [h1] at hp
      exact h4 q (hwf.2.2.2 p i hp q hq)
  · intro _ p i hl
    obtain ⟨l1, l2, l3⟩ := look_file hl
    exact look_file_of (fun q hq => by rw [hino]; exact l1 q hq) (mkdirs_isDir_file l2 (by rw [l3]; exact nofun))
      (by rw [hino]; exact l3)

theorem loc_addFile {T : Path → Prop} {fs : Fs} {t : Path} (hT : T t) (hl : fs.look t = .notFound)
    (hpre : ∀ q ∈ Fs.properPrefixes t, fs.isDir q = true) : Loc T fs (addFile fs t) := by
  obtain ⟨hnd, hnone⟩ := look_notFound hl
  have keep : ∀ p i, fs.inoOf p = some i → (addFile fs t).inoOf p = some i := by
    intro p i h
    rw [inoOf_addFile, if_neg (by rintro rfl; rw [hnone] at h; cases h)]
    exact h
  refine ⟨Nat.le_succ _, keep, ?_, ?_, ?_, fun i hi _ => content_addFile fs t i (Nat.ne_of_lt hi)⟩
  · intro p i h
    rcases inoOf_addFile_some h with ⟨rfl, rfl⟩ | ⟨_, h⟩
    · exact Or.inr ⟨hT, Nat.le_refl _⟩
    · exact Or.inl h
  · intro ⟨w1, w2, w3, w4⟩
    have mem : ∀ {p i}, (p, i) ∈ (addFile fs t).files → (p = t ∧ i = fs.next) ∨ (p, i) ∈ fs.files :=
      fun hp => (List.mem_cons.1 hp).imp_left fun h => by cases h; exact ⟨rfl, rfl⟩
    refine ⟨fun p i hp => ?_, ?_, fun p i hp => ?_, fun p i hp q hq => ?_⟩
    · show i < fs.next + 1
      rcases mem hp with ⟨_, rfl⟩ | h
      · exact Nat.lt_succ_self _
      · exact Nat.lt_succ_of_lt (w1 p i h)
    · show ((t, fs.next) :: fs.files |>.map (·.1)).Nodup
      rw [List.map_cons, List.nodup_cons]
      refine ⟨fun hmem => ?_, w2⟩
      obtain ⟨e, he, het⟩ := List.mem_map.1 hmem
      exact inoOf_none hnone e he het
    · rcases mem hp with ⟨rfl, _⟩ | h
      · exact hnd
      · exact w3 p i h
    · rcases mem hp with ⟨rfl, _⟩ | h
      · exact hpre q hq
      · exact w4 p i h q hq
  · intro hwf p i hlp
    obtain ⟨l1, l2, l3⟩ := look_file hlp
    refine look_file_of (fun q hq => ?_) l2 (keep p i l3)
    rw [inoOf_addFile]
    split
    · rename_i e; subst e
      -- the new file would be a proper prefix of an existing file: but then it is a directory
      have := hwf.2.2.2 p i (inoOf_mem l3) t hq
      rw [hnd] at this; cases this
    · exact l1 q hq

theorem loc_openCreate {T : Path → Prop} {fs : Fs} {t : Path} (hT : T t)
    (hpre : ∀ q ∈ Fs.properPrefixes t, fs.isDir q = true) : Loc T fs (fs.openCreate t).1 := by
  rcases openCreate_cases fs t with h | ⟨hl, _, h⟩
  · exact Loc.of_eq h
  · rw [h]; exact loc_addFile hT hl hpre

theorem loc_setData {T : Path → Prop} {fs : Fs} {t : Path} {i : Nat} (hT : T t) (hi : fs.inoOf t = some i)
    (bs : Bytes) : Loc T fs (fs.setData i bs) := by
  refine ⟨Nat.le_refl _, fun _ _ h => h, fun _ _ h => Or.inl h, fun h => h, fun _ _ _ h => h, ?_⟩
  intro j _ hj
  apply RD.Fs.content_setData_ne
  intro e; subst e
  exact hj t hT hi

theorem loc_setLen {T : Path → Prop} {fs : Fs} {t : Path} {i : Nat} (hT : T t) (hi : fs.inoOf t = some i)
    (n : Nat) : Loc T fs (fs.setLen i n) := loc_setData hT hi _

theorem loc_writeAt {T : Path → Prop} {fs : Fs} {t : Path} {i : Nat} (hT : T t) (hi : fs.inoOf t = some i)
    (off : Nat) (d : Bytes) : Loc T fs (fs.writeAt i off d) := loc_setData hT hi _

theorem loc_op {T : Path → Prop} {st st1 : St} {ok : Bool} {k : OpKind} {p : Path} {n : Fs → Fs × Bool}
    (h : st.op k p n = (st1, ok)) (hn : Loc T st.fs (n st.fs).1) : Loc T st.fs st1.fs := by
  rcases St.op_fs h with ⟨e, _⟩ | ⟨e, _⟩
  · exact Loc.of_eq e
  · rw [e]; exact hn

end TB.RunF
