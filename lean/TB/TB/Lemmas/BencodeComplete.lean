/-
  Completeness of `decodeAny` / `decodeListLoop` / `decodeDictLoop` on encodings of canonical values, by
  induction on the fuel (fuel `|encode v|` suffices).
  The continuation positions stay existential: `decodeAny_sound` determines them.
-/
import TB.Lemmas.BencodeSound
namespace TB

theorem encodeStr_head (s rest : Bytes) : ∃ b tl, encodeStr s ++ rest = b :: tl ∧ isDigit b = true := by
  obtain ⟨b, tl, e, hb⟩ := natDigits_head s.length
  exact ⟨b, _, by rw [encodeStr, e]; rfl, hb⟩

theorem isValueStart_of_digit {b : UInt8} (h : isDigit b = true) : isValueStart b = true := by
  rw [isValueStart, h]; rfl

theorem encode_head : ∀ (v : BVal) (rest : Bytes), ∃ b tl, encode v ++ rest = b :: tl ∧ isValueStart b = true
  | .int _, _ => ⟨105, _, rfl, by decide⟩
  | .str s, rest => have ⟨b, tl, e, hb⟩ := encodeStr_head s rest; ⟨b, tl, e, isValueStart_of_digit hb⟩
  | .list _, _ => ⟨108, _, rfl, by decide⟩
  | .dict _, _ => ⟨100, _, rfl, by decide⟩

theorem encode_length_pos (v : BVal) : 0 < (encode v).length := by
  obtain ⟨b, tl, e, _⟩ := encode_head v []
  rw [← List.append_nil (encode v), e]; exact Nat.succ_pos _

theorem decodeStrTok_complete (s rest : Bytes) (pos : Nat) (hs : s.length ≤ usizeMax) :
    ∃ c, decodeStrTok (encodeStr s ++ rest) pos = .ok (⟨s, pos, c⟩, rest) := by
  obtain ⟨c, e⟩ := decodeStr_complete s rest pos hs
  exact ⟨c, by rw [decodeStrTok, e]⟩

def CompAny (fuel : Nat) : Prop :=
  ∀ (v : BVal) (rest : Bytes) (pos : Nat), canon v = true → (encode v).length ≤ fuel →
    ∃ t, decodeAny fuel (encode v ++ rest) pos = .ok (t, rest) ∧ erase t = v

def CompList (fuel : Nat) : Prop :=
  ∀ (xs : List BVal) (rest : Bytes) (pos start : Nat) (acc : List Tok), canonList xs = true →
    (encodeList xs).length + 1 ≤ fuel →
    ∃ items c, decodeListLoop fuel (encodeList xs ++ 101 :: rest) pos start acc
        = .ok (.list (acc.reverse ++ items) start c, rest) ∧ eraseList items = xs

def CompDict (fuel : Nat) : Prop :=
  ∀ (kvs : List (Bytes × BVal)) (rest : Bytes) (pos start : Nat) (ks : List StrTok) (vs : List Tok),
    canonDict kvs = true → keysAscending (lastKey ks ++ kvs.map (·.1)) = true →
    (encodeDict kvs).length + 1 ≤ fuel →
    ∃ ks' vs' c, decodeDictLoop fuel (encodeDict kvs ++ 101 :: rest) pos start ks vs
        = .ok (.dict (ks.reverse ++ ks') (vs.reverse ++ vs') start c, rest)
      ∧ ks'.length = vs'.length ∧ eraseDict ks' vs' = kvs

theorem comp_any_step (fuel : Nat) (hL : CompList fuel) (hD : CompDict fuel) : CompAny (fuel + 1) := by
  intro v rest pos hc hf
  cases v with
  | int v =>
    obtain ⟨c, hdec⟩ := decodeInt_complete v rest pos hc
    refine ⟨.int v pos c, ?_, rfl⟩
    show decodeAny (fuel + 1) (105 :: _) pos = _
    rw [decodeAny, if_neg (by decide), if_pos (by decide), show decodeInt (105 :: _) pos = _ from hdec]
  | str s =>
    obtain ⟨c, hdec⟩ := decodeStrTok_complete s rest pos (of_decide_eq_true hc)
    obtain ⟨b, tl, e, hb⟩ := encodeStr_head s rest
    refine ⟨.str ⟨s, pos, c⟩, ?_, rfl⟩
    show decodeAny (fuel + 1) (encodeStr s ++ rest) pos = _
    rw [e] at hdec ⊢
    rw [decodeAny, if_pos hb, hdec]
  | list xs =>
    have hlen : (encode (.list xs)).length = (encodeList xs).length + 1 + 1 :=
      congrArg (· + 1) (List.length_append ..)
    obtain ⟨items, c, e1, e2⟩ := hL xs rest (pos + 1) pos [] hc (by omega)
    refine ⟨.list items pos c, ?_, congrArg BVal.list e2⟩
    show decodeAny (fuel + 1) (108 :: (encodeList xs ++ [101]) ++ rest) pos = _
    rw [List.cons_append, List.append_assoc, decodeAny, if_neg (by decide), if_neg (by decide), if_pos (by decide)]
    exact e1
  | dict kvs =>
    have hlen : (encode (.dict kvs)).length = (encodeDict kvs).length + 1 + 1 :=
      congrArg (· + 1) (List.length_append ..)
    obtain ⟨hk, hc⟩ := (Bool.and_eq_true _ _).mp hc
    obtain ⟨ks', vs', c, e1, _, e3⟩ := hD kvs rest (pos + 1) pos [] [] hc hk (by omega)
    refine ⟨.dict ks' vs' pos c, ?_, congrArg BVal.dict e3⟩
    show decodeAny (fuel + 1) (100 :: (encodeDict kvs ++ [101]) ++ rest) pos = _
    rw [List.cons_append, List.append_assoc, decodeAny, if_neg (by decide), if_neg (by decide), if_neg (by decide),
      if_pos (by decide)]
    exact e1

theorem comp_list_step (fuel : Nat) (hA : CompAny fuel) (hL : CompList fuel) : CompList (fuel + 1) := by
  intro xs rest pos start acc hc hf
  cases xs with
  | nil =>
    refine ⟨[], pos + 1, ?_, rfl⟩
    show decodeListLoop (fuel + 1) (101 :: rest) pos start acc = _
    rw [decodeListLoop, if_neg (by decide), if_pos (by decide), List.append_nil]
  | cons x xs' =>
    obtain ⟨hcx, hcs⟩ := (Bool.and_eq_true _ _).mp hc
    have hf' : (encode x).length + (encodeList xs').length + 1 ≤ fuel + 1 :=
      List.length_append ▸ hf
    have hpos := encode_length_pos x
    obtain ⟨t1, a1, a2⟩ := hA x (encodeList xs' ++ 101 :: rest) pos hcx (by omega)
    obtain ⟨items, c, e1, e2⟩ := hL xs' rest t1.cont start (t1 :: acc) hcs (by omega)
    obtain ⟨b, tl, eb, hb⟩ := encode_head x (encodeList xs' ++ 101 :: rest)
    refine ⟨t1 :: items, c, ?_, by rw [← a2, ← e2]; rfl⟩
    show decodeListLoop (fuel + 1) ((encode x ++ encodeList xs') ++ 101 :: rest) pos start acc = _
    rw [List.append_assoc]
    rw [eb] at a1 ⊢
    rw [decodeListLoop, if_pos hb, a1]
    rw [List.reverse_cons, List.append_assoc] at e1
    exact e1

theorem comp_dict_step (fuel : Nat) (hA : CompAny fuel) (hD : CompDict fuel) : CompDict (fuel + 1) := by
  intro kvs rest pos start ks vs hc hk hf
  cases kvs with
  | nil =>
    refine ⟨[], [], pos + 1, ?_, rfl, rfl⟩
    show decodeDictLoop (fuel + 1) (101 :: rest) pos start ks vs = _
    rw [decodeDictLoop, if_neg (by decide), if_pos (by decide), List.append_nil, List.append_nil]
  | cons kv kvs' =>
    obtain ⟨k, v⟩ := kv
    obtain ⟨hc12, hc3⟩ := (Bool.and_eq_true _ _).mp hc
    obtain ⟨hc1, hc2⟩ := (Bool.and_eq_true _ _).mp hc12
    have hf' : (encodeStr k).length + (encode v).length + (encodeDict kvs').length + 1 ≤ fuel + 1 := by
      rw [← List.length_append, ← List.length_append]; exact hf
    have hpos := encode_length_pos v
    rw [List.map_cons, keysAscending_lastKey_cons] at hk
    obtain ⟨ho, hk'⟩ := (Bool.and_eq_true _ _).mp hk
    obtain ⟨ck, hdec⟩ := decodeStrTok_complete k (encode v ++ (encodeDict kvs' ++ 101 :: rest)) pos
      (of_decide_eq_true hc1)
    obtain ⟨t1, a1, a2⟩ := hA v (encodeDict kvs' ++ 101 :: rest) ck hc2 (by omega)
    obtain ⟨ks', vs', c, e1, e2, e3⟩ := hD kvs' rest t1.cont start (⟨k, pos, ck⟩ :: ks) (t1 :: vs) hc3 hk' (by omega)
    obtain ⟨b2, tl2, eb2, hb2⟩ := encode_head v (encodeDict kvs' ++ 101 :: rest)
    obtain ⟨b, tl, eb, hb⟩ := encodeStr_head k (b2 :: tl2)
    refine ⟨⟨k, pos, ck⟩ :: ks', t1 :: vs', c, ?_, congrArg (· + 1) e2, by rw [← a2, ← e3]; rfl⟩
    show decodeDictLoop (fuel + 1) ((encodeStr k ++ encode v ++ encodeDict kvs') ++ 101 :: rest) pos start ks vs = _
    rw [List.append_assoc, List.append_assoc]
    rw [eb2] at a1 hdec ⊢
    rw [eb] at hdec ⊢
    rw [decodeDictLoop, if_pos hb, hdec]
    dsimp only
    rw [ordMatch_eq, ho, if_pos rfl, if_pos hb2, a1]
    rw [List.reverse_cons, List.append_assoc, List.reverse_cons, List.append_assoc] at e1
    exact e1

theorem comp_all : ∀ fuel, CompAny fuel ∧ CompList fuel ∧ CompDict fuel
  | 0 => ⟨fun v _ _ _ hf => absurd (encode_length_pos v) (by omega), fun _ _ _ _ _ _ hf => absurd hf (by omega),
      fun _ _ _ _ _ _ _ _ hf => absurd hf (by omega)⟩
  | n + 1 =>
    have ⟨hA, hL, hD⟩ := comp_all n
    ⟨comp_any_step n hL hD, comp_list_step n hA hL, comp_dict_step n hA hD⟩

theorem decodeAny_complete (v : BVal) (rest : Bytes) (pos fuel : Nat) (hc : canon v = true)
    (hf : (encode v).length ≤ fuel) :
    ∃ t, decodeAny fuel (encode v ++ rest) pos = .ok (t, rest) ∧ erase t = v :=
  (comp_all fuel).1 v rest pos hc hf

end TB
