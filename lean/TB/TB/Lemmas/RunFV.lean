/-
  What the matchers hand to the writer, and the tree after the writer is done (C04a).
-/
import TB.Lemmas.RunFW
import TB.Lemmas.Run
namespace TB.RunF
open TB

/-- `c` is an entry the matchers may choose for segment `seg` when the tree is `fs` -/
def Sel (fs : Fs) (seg : WSeg) (c : Option Path × Bytes) : Prop :=
  (seg.ent.isPad = true → c = (none, List.replicate seg.len 0)) ∧
  (seg.ent.isPad = false → seg.ent.searches = none → c = (none, [])) ∧
  (seg.ent.isPad = false → ∀ paths, seg.ent.searches = some paths →
     RC.FromPath fs seg paths c)

theorem _root_.TB.RC.CandOK.sel {fs : Fs} {seg : WSeg} {cands : List (Option Path × Bytes)}
    (h : RC.CandOK fs seg cands) {c : Option Path × Bytes} (hc : c ∈ cands) : Sel fs seg c :=
  ⟨fun hp => by rw [h.pad hp] at hc; simpa using hc,
   fun hp hs => by rw [h.empty hp hs] at hc; simpa using hc,
   fun hp paths hs => h.sound hp paths hs c hc⟩

theorem preload_sound {st st' : St} {segs : List WSeg} {loaded : List (List (Option Path × Bytes))}
    (h : preload st segs = (st', .ok loaded)) :
    segs.length = loaded.length ∧ ∀ x ∈ List.zip segs loaded, ∀ c ∈ x.2, Sel st.fs x.1 c := by
  have := RC.preload_spec h
  clear h
  generalize st.fs = fs at this ⊢
  induction this with
  | nil => exact ⟨rfl, fun x hx => by cases hx⟩
  | cons hab _ ih =>
    refine ⟨by simp [ih.1], fun x hx => ?_⟩
    rw [List.zip_cons_cons, List.mem_cons] at hx
    rcases hx with rfl | hx
    · exact fun c hc => hab.sel hc
    · exact ih.2 x hx

theorem searchProduct_picks {H : Bytes → Bytes} {hash : Bytes} : ∀ (loaded : List (List (Option Path × Bytes)))
    (chosen0 res : List (Option Path × Bytes)), searchProduct H hash loaded chosen0 = some res →
    ∃ picks, res = chosen0 ++ picks ∧ picks.length = loaded.length ∧ ∀ x ∈ List.zip picks loaded, x.1 ∈ x.2 := by
  intro loaded
  induction loaded with
  | nil =>
    intro chosen0 res h
    simp only [searchProduct] at h
    split at h
    · cases h
      exact ⟨[], by simp, rfl, fun x hx => by cases hx⟩
    · cases h
  | cons cands rest ih =>
    intro chosen0 res h
    simp only [searchProduct] at h
    obtain ⟨a, ha, hr⟩ := firstM_option_some h
    obtain ⟨picks, hp1, hp2, hp3⟩ := ih _ _ hr
    refine ⟨a :: picks, by rw [hp1]; simp, by simp [hp2], ?_⟩
    intro x hx
    rw [List.zip_cons_cons, List.mem_cons] at hx
    rcases hx with rfl | hx
    · exact ha
    · exact hp3 x hx

theorem zip_compose {α γ : Type} {P : α → γ → Prop} : ∀ (a : List α) (b : List (List γ)) (c : List γ),
    a.length = b.length → c.length = b.length →
    (∀ x ∈ List.zip a b, ∀ y ∈ x.2, P x.1 y) → (∀ x ∈ List.zip c b, x.1 ∈ x.2) →
    ∀ z ∈ List.zip a c, P z.1 z.2 := by
  intro a
  induction a with
  | nil => intro b c _ _ _ _ z hz; cases hz
  | cons a0 a ih =>
    intro b c hab hcb h1 h2 z hz
    cases c with
    | nil => cases hz
    | cons c0 c =>
      cases b with
      | nil => cases hab
      | cons b0 b =>
        rw [List.zip_cons_cons, List.mem_cons] at hz
        rcases hz with rfl | hz
        · exact h1 (a0, b0) (by simp) c0 (h2 (c0, b0) (by simp))
        · exact ih b c (by simpa using hab) (by simpa using hcb)
            (fun x hx => h1 x (by rw [List.zip_cons_cons]; exact List.mem_cons_of_mem _ hx))
            (fun x hx => h2 x (by rw [List.zip_cons_cons]; exact List.mem_cons_of_mem _ hx)) z hz

theorem readAt_length_le (fs : Fs) (i off len : Nat) : (fs.readAt i off len).length ≤ len := by
  unfold Fs.readAt
  rw [List.length_take]
  exact Nat.min_le_left _ _

theorem flatMap_length_le : ∀ (segs : List WSeg) (chosen : List (Option Path × Bytes)),
    (∀ x ∈ List.zip segs chosen, x.2.2.length ≤ x.1.len) → segs.length = chosen.length →
    (chosen.flatMap (·.2)).length ≤ (segs.map (·.len)).sum := by
  intro segs
  induction segs with
  | nil =>
    intro chosen _ hl
    cases chosen with
    | nil => simp
    | cons _ _ => cases hl
  | cons s segs ih =>
    intro chosen h hl
    cases chosen with
    | nil => cases hl
    | cons c cs =>
      have h0 := h (s, c) (by simp)
      have := ih cs (fun x hx => h x (by rw [List.zip_cons_cons]; exact List.mem_cons_of_mem _ hx))
        (by simpa using hl)
      simp only [List.flatMap_cons, List.length_append, List.map_cons, List.sum_cons]
      simp only at h0
      omega

theorem lengths_exact : ∀ (segs : List WSeg) (chosen : List (Option Path × Bytes)),
    (∀ x ∈ List.zip segs chosen, x.2.2.length ≤ x.1.len) → segs.length = chosen.length →
    (chosen.flatMap (·.2)).length = (segs.map (·.len)).sum →
    ∀ x ∈ List.zip segs chosen, x.2.2.length = x.1.len := by
  intro segs
  induction segs with
  | nil => intro chosen _ _ _ x hx; cases hx
  | cons s segs ih =>
    intro chosen h hl hsum x hx
    cases chosen with
    | nil => cases hl
    | cons c cs =>
      have h0 := h (s, c) (by simp)
      have htl : ∀ x ∈ List.zip segs cs, x.2.2.length ≤ x.1.len :=
        fun x hx => h x (by rw [List.zip_cons_cons]; exact List.mem_cons_of_mem _ hx)
      have hl' : segs.length = cs.length := by simpa using hl
      have hle := flatMap_length_le segs cs htl hl'
      simp only [List.flatMap_cons, List.length_append, List.map_cons, List.sum_cons] at hsum
      simp only at h0
      rw [List.zip_cons_cons, List.mem_cons] at hx
      rcases hx with rfl | hx
      · simp only; omega
      · exact ih cs htl hl' (by omega) x hx

/-- what the writer needs to know about the entry chosen for a segment, relative to the current tree -/
def Good (fs : Fs) (seg : WSeg) (c : Option Path × Bytes) : Prop :=
  c.2.length = seg.len ∧
  (seg.ent.isPad = true → c.2 = List.replicate seg.len 0) ∧
  (seg.ent.isPad = false → c.1 = some seg.ent.fullTarget →
     ∃ i, fs.look seg.ent.fullTarget = .file i ∧ seg.off + seg.len ≤ (fs.content i).length
       ∧ fs.readAt i seg.off seg.len = c.2)

/-- the export images of two non-padding segments are different names and, where both are bound, different inodes -/
def DistR (fs : Fs) (s t : WSeg) : Prop :=
  s.ent.isPad = false → t.ent.isPad = false →
    s.ent.fullTarget ≠ t.ent.fullTarget ∧
    (∀ i j, fs.inoOf s.ent.fullTarget = some i → fs.inoOf t.ent.fullTarget = some j → i ≠ j)

theorem frame_file {T : Path → Prop} {fs fs' : Fs} (L : Loc T fs fs') (hwf : WF fs) {p : Path} {i : Nat}
    (hl : fs.look p = .file i) (hT : ∀ t, T t → fs.inoOf t ≠ some i) :
    fs'.look p = .file i ∧ fs'.content i = fs.content i :=
  ⟨L.look_pres hwf p i hl, L.content i (inoOf_lt hwf (look_file_inoOf hl)) hT⟩

theorem segBytesIn_of {fs : Fs} {s : WSeg} {i : Nat} {b : Bytes} (hpad : s.ent.isPad = false)
    (hl : fs.look s.ent.fullTarget = .file i) (hle : s.off + s.len ≤ (fs.content i).length)
    (hrd : fs.readAt i s.off s.len = b) : segBytesIn fs s = some b := by
  unfold segBytesIn
  rw [if_neg (by rw [hpad]; exact Bool.false_ne_true), hl]
  simp only
  rw [if_pos hle, hrd]

theorem readAt_congr {fs fs' : Fs} {i : Nat} (h : fs'.content i = fs.content i) (off len : Nat) :
    fs'.readAt i off len = fs.readAt i off len := by
  unfold Fs.readAt; rw [h]

theorem Good.transport {T : Path → Prop} {fs fs' : Fs} (L : Loc T fs fs') (hwf : WF fs) {s : WSeg}
    {c : Option Path × Bytes} (hg : Good fs s c)
    (hT : s.ent.isPad = false → ∀ i, fs.inoOf s.ent.fullTarget = some i → ∀ t, T t → fs.inoOf t ≠ some i) :
    Good fs' s c := by
  refine ⟨hg.1, hg.2.1, ?_⟩
  intro hpad hsrc
  obtain ⟨i, hl, hle, hrd⟩ := hg.2.2 hpad hsrc
  obtain ⟨hl', hc'⟩ := frame_file L hwf hl (hT hpad i (look_file_inoOf hl))
  exact ⟨i, hl', by rw [hc']; exact hle, by rw [readAt_congr hc']; exact hrd⟩

theorem drop_add_of {buf : Bytes} {start : Nat} {a b : Bytes} (h : buf.drop start = a ++ b) :
    buf.drop (start + a.length) = b ∧ (buf.drop start).take a.length = a := by
  constructor
  · rw [← List.drop_drop, h, List.drop_left]
  · rw [h, List.take_left]

theorem writeSegs_verifies : ∀ (segs : List WSeg) (chosen : List (Option Path × Bytes)) (st st' : St)
    (buf : Bytes) (start : Nat),
    segs.length = chosen.length →
    (∀ x ∈ List.zip segs chosen, Good st.fs x.1 x.2) →
    WF st.fs → List.Pairwise (DistR st.fs) segs →
    (∀ s ∈ segs, s.off + s.len ≤ s.ent.fileLength) →
    buf.drop start = chosen.flatMap (·.2) →
    writeSegs st (List.zip segs (chosen.map (·.1))) buf start = (st', .found) →
    ∀ x ∈ List.zip segs chosen, segBytesIn st'.fs x.1 = some x.2.2 := by
  intro segs
  induction segs with
  | nil => intro chosen st st' buf start _ _ _ _ _ _ _ x hx; cases hx
  | cons seg rest ih =>
    intro chosen st st' buf start hlen hgood hwf hdist hrange hbuf hfound
    cases chosen with
    | nil => cases hlen
    | cons c cs =>
    have hlen' : rest.length = cs.length := by simpa using hlen
    have hg0 : Good st.fs seg c := hgood (seg, c) (by simp)
    have hgt : ∀ x ∈ List.zip rest cs, Good st.fs x.1 x.2 :=
      fun x hx => hgood x (by rw [List.zip_cons_cons]; exact List.mem_cons_of_mem _ hx)
    obtain ⟨hd0, hdt⟩ := List.pairwise_cons.1 hdist
    have hranget : ∀ s ∈ rest, s.off + s.len ≤ s.ent.fileLength := fun s hs => hrange s (List.mem_cons_of_mem _ hs)
    rw [List.flatMap_cons] at hbuf
    obtain ⟨hbuf', hdata⟩ := drop_add_of hbuf
    rw [hg0.1] at hbuf' hdata
    rw [List.map_cons, List.zip_cons_cons] at hfound
    -- the export images of the later segments are other files than this segment's
    have hother : seg.ent.isPad = false → ∀ i, st.fs.inoOf seg.ent.fullTarget = some i →
        ∀ t, Tof (List.zip rest (cs.map (·.1))) t → t ≠ seg.ent.fullTarget ∧ st.fs.inoOf t ≠ some i := by
      intro hpad i hi t ⟨x, hx, hxpad, _, hxt⟩
      have hxr : x.1 ∈ rest := (List.of_mem_zip hx).1
      obtain ⟨d1, d2⟩ := hd0 x.1 hxr hpad hxpad
      subst hxt
      exact ⟨fun e => d1 e.symm, fun hj => d2 i i hi hj rfl⟩
    intro x hx
    rw [List.zip_cons_cons, List.mem_cons] at hx
    by_cases hpad : seg.ent.isPad = true
    · -- padding
      rw [writeSegs_skip (Or.inl hpad)] at hfound
      rcases hx with rfl | hx
      · unfold segBytesIn
        simp only
        rw [if_pos hpad, hg0.2.1 hpad]
      · exact ih cs st st' buf _ hlen' hgt hwf hdt hranget hbuf' hfound x hx
    have hpad : seg.ent.isPad = false := by simpa using hpad
    by_cases hsrc : c.1 = some seg.ent.fullTarget
    · -- matched from its own export image: not written
      rw [writeSegs_skip (Or.inr hsrc)] at hfound
      rcases hx with rfl | hx
      · obtain ⟨i, hl, hle, hrd⟩ := hg0.2.2 hpad hsrc
        have L := writeSegs_loc (List.zip rest (cs.map (·.1))) st buf (start + seg.len)
        rw [hfound] at L
        obtain ⟨hl', hc'⟩ := frame_file L hwf hl (fun t ht => (hother hpad i (look_file_inoOf hl) t ht).2)
        exact segBytesIn_of hpad hl' (by rw [hc']; exact hle) (by rw [readAt_congr hc']; exact hrd)
      · exact ih cs st st' buf _ hlen' hgt hwf hdt hranget hbuf' hfound x hx
    -- written
    rw [writeSegs_write hpad hsrc] at hfound
    have hw1 := writeOne_spec st seg buf start
    generalize writeOne st seg buf start = r1 at hw1 hfound
    rcases r1 with ⟨st5, _ | r⟩ <;> dsimp only at hfound
    · obtain ⟨_, i, hl5, hle5, hrd5⟩ := writeOne_ok hw1
      rw [hdata] at hrd5
      have L1 : Loc (fun p => p = seg.ent.fullTarget) st.fs st5.fs := writeOne_loc hw1 rfl
      have hwf5 : WF st5.fs := L1.wf hwf
      -- names of later segments keep their binding (or lack of one)
      have hino : ∀ s ∈ rest, s.ent.isPad = false → ∀ j, st5.fs.inoOf s.ent.fullTarget = some j →
          st.fs.inoOf s.ent.fullTarget = some j := by
        intro s hs hspad j hj
        rcases L1.ino_new _ _ hj with h | ⟨h, _⟩
        · exact h
        · exact absurd h.symm (hd0 s hs hpad hspad).1
      have hdt5 : List.Pairwise (DistR st5.fs) rest := by
        refine List.Pairwise.imp_of_mem ?_ hdt
        intro a b ha hb hab hapad hbpad
        obtain ⟨d1, d2⟩ := hab hapad hbpad
        exact ⟨d1, fun i j hi hj => d2 i j (hino a ha hapad i hi) (hino b hb hbpad j hj)⟩
      have hgt5 : ∀ x ∈ List.zip rest cs, Good st5.fs x.1 x.2 := by
        intro x hx
        refine (hgt x hx).transport L1 hwf ?_
        intro hxpad j hj t ht hj'
        subst ht
        exact (hd0 x.1 (List.of_mem_zip hx).1 hpad hxpad).2 j j hj' hj rfl
      rcases hx with rfl | hx
      · have L2 := writeSegs_loc (List.zip rest (cs.map (·.1))) st5 buf (start + seg.len)
        rw [hfound] at L2
        have hi5 := look_file_inoOf hl5
        obtain ⟨hl', hc'⟩ := frame_file L2 hwf5 hl5 (by
          intro t ht hj
          obtain ⟨x, hx, hxpad, _, hxt⟩ := ht
          subst hxt
          have hxr : x.1 ∈ rest := (List.of_mem_zip hx).1
          have hj0 := hino x.1 hxr hxpad i hj
          rcases L1.ino_new _ _ hi5 with h | ⟨_, h⟩
          · exact (hd0 x.1 hxr hpad hxpad).2 i i h hj0 rfl
          · have := inoOf_lt hwf hj0
            omega)
        exact segBytesIn_of hpad hl' (by rw [hc']; exact hle5) (by rw [readAt_congr hc']; exact hrd5)
      · exact ih cs st5 st' buf _ hlen' hgt5 hwf5 hdt5 hranget hbuf' hfound x hx
    · cases hw1.fault
      cases hfound

theorem sel_length_le {fs : Fs} {s : WSeg} {c : Option Path × Bytes} (hsel : Sel fs s c)
    (hfiles : ∀ paths, s.ent.searches = some paths → ∀ p ∈ paths, ∃ i, fs.look p = .file i) :
    c.2.length ≤ s.len := by
  cases hpad : s.ent.isPad with
  | true => rw [hsel.1 hpad]; simp
  | false =>
    cases hs : s.ent.searches with
    | none => rw [hsel.2.1 hpad hs]; simp
    | some paths =>
      obtain ⟨p, hp, _, hb⟩ := hsel.2.2 hpad paths hs
      obtain ⟨i, hi⟩ := hfiles paths hs p hp
      rw [hb i hi]
      exact readAt_length_le _ _ _ _

theorem sel_good {fs : Fs} {s : WSeg} {c : Option Path × Bytes} (hsel : Sel fs s c)
    (hfiles : ∀ paths, s.ent.searches = some paths → ∀ p ∈ paths, ∃ i, fs.look p = .file i)
    (hrange : s.off + s.len ≤ s.ent.fileLength) (hzero : s.len = 0 → s.ent.fileLength = 0)
    (hex : c.2.length = s.len) : Good fs s c := by
  refine ⟨hex, ?_, ?_⟩
  · intro hpad; rw [hsel.1 hpad]
  · intro hpad hsrc
    cases hs : s.ent.searches with
    | none => rw [hsel.2.1 hpad hs] at hsrc; cases hsrc
    | some paths =>
      obtain ⟨p, hp, hc1, hb⟩ := hsel.2.2 hpad paths hs
      rw [hc1] at hsrc
      cases hsrc
      obtain ⟨i, hi⟩ := hfiles paths hs _ hp
      have hbi := hb i hi
      refine ⟨i, hi, ?_, hbi.symm⟩
      by_cases h0 : s.len = 0
      · have := hzero h0; omega
      · rw [hbi] at hex
        unfold Fs.readAt at hex
        rw [List.length_take, List.length_drop] at hex
        omega

theorem verifies_of_chosen (H : Bytes → Bytes) (st1 st' : St) (w : Work) (chosen : List (Option Path × Bytes))
    (hwf : WF st1.fs) (hdist : List.Pairwise (DistR st1.fs) w.segs)
    (hrange : ∀ s ∈ w.segs, s.off + s.len ≤ s.ent.fileLength)
    (hlen : ∀ b, H b = w.hash → b.length = (w.segs.map (·.len)).sum)
    (hzero : ∀ s ∈ w.segs, s.len = 0 → s.ent.fileLength = 0)
    (hfiles : ∀ s ∈ w.segs, ∀ paths, s.ent.searches = some paths → ∀ p ∈ paths, ∃ i, st1.fs.look p = .file i)
    (hl : w.segs.length = chosen.length)
    (hsel : ∀ x ∈ List.zip w.segs chosen, Sel st1.fs x.1 x.2)
    (hH : H (chosen.flatMap (·.2)) = w.hash)
    (hw : writeSegs st1 (List.zip w.segs (chosen.map (·.1))) (chosen.flatMap (·.2)) 0 = (st', .found)) :
    VerE H st'.fs w := by
  have hmem : ∀ x ∈ List.zip w.segs chosen, x.1 ∈ w.segs := fun x hx => (List.of_mem_zip hx).1
  have hle : ∀ x ∈ List.zip w.segs chosen, x.2.2.length ≤ x.1.len :=
    fun x hx => sel_length_le (hsel x hx) (hfiles x.1 (hmem x hx))
  have hex := lengths_exact w.segs chosen hle hl (hlen _ hH)
  have hgood : ∀ x ∈ List.zip w.segs chosen, Good st1.fs x.1 x.2 :=
    fun x hx => sel_good (hsel x hx) (hfiles x.1 (hmem x hx)) (hrange x.1 (hmem x hx)) (hzero x.1 (hmem x hx))
      (hex x hx)
  have hv := writeSegs_verifies w.segs chosen st1 st' (chosen.flatMap (·.2)) 0 hl hgood hwf hdist hrange
    (by simp) hw
  refine ⟨chosen.map (·.2), mapM_of_zip _ _ _ (by simp [hl]) ?_, ?_⟩
  · intro y hy
    rw [List.zip_map_right, List.mem_map] at hy
    obtain ⟨x, hx, rfl⟩ := hy
    exact hv x hx
  · rw [← List.flatMap_def]; exact hH

theorem scanSingle_sound {H : Bytes → Bytes} {hash : Bytes} {seg : WSeg} (paths : List Path) (st st1 : St)
    (src : Path) (bytes : Bytes) (h : scanSingle H hash seg st paths = (st1, .ok (some (src, bytes)))) :
    src ∈ paths ∧ ∀ i, st.fs.look src = .file i → bytes = st.fs.readAt i seg.off seg.len := by
  fun_induction scanSingle H hash seg st paths with
  | case1 | case2 => cases h
  -- the first candidate matches
  | case3 _ _ _ _ _ hr =>
    cases h
    exact ⟨List.mem_cons_self, fun i hi => RC.readBytes_eq hr hi⟩
  -- it does not: the answer comes from a later one, read in a state with the same tree
  | case4 st q _ _ _ hr _ ih =>
    obtain ⟨h1, h2⟩ := ih h
    rw [(RC.ROExt.of_eq hr (RC.readBytes_ext st q seg.len seg.off)).fs] at h2
    exact ⟨List.mem_cons_of_mem _ h1, h2⟩

end TB.RunF
