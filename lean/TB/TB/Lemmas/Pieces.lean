/-
  The cursor loops of TB.Model.Pieces against the interval layout of TB.Spec.LayoutSpec (C06): prefix sums and
  cursor positions, the specification restarted at a file (`expFrom`), one run of the inner loop (`fill_spec`),
  the outer loop (`multi_spec`), the single-file loop as the multi-file loop over a one-file list
  (`multiLoop_single`), the checker.
-/
import TB.Model.Pieces
import TB.Model.Torrent
import TB.Spec.LayoutSpec
namespace TB

/-- global position of a cursor (file index, bytes remaining in that file) -/
def gpos (files : List Nat) (fi rem : Nat) : Nat := base files fi + (files[fi]! - rem)

theorem base_succ (files : List Nat) (i : Nat) (h : i < files.length) :
    base files (i+1) = base files i + files[i] := by
  unfold base
  rw [List.take_add_one, List.sum_append, List.getElem?_eq_getElem h]
  simp

theorem base_le (files : List Nat) (i : Nat) : base files i ≤ files.sum := by
  unfold base
  have := List.take_append_drop i files
  have h2 : files.sum = (files.take i).sum + (files.drop i).sum := by
    rw [← List.sum_append, this]
  omega

theorem base_all (files : List Nat) : base files files.length = files.sum := by simp [base]

theorem base_zero (files : List Nat) : base files 0 = 0 := by simp [base]

theorem gpos_eq (files : List Nat) (fi rem : Nat) (hfi : fi < files.length) :
    gpos files fi rem = base files fi + (files[fi] - rem) := by
  rw [gpos, getElem!_pos files fi hfi]

theorem gpos_end (files : List Nat) : gpos files files.length 0 = files.sum := by
  simp [gpos, base_all]

theorem gpos_full (files : List Nat) (fi : Nat) (hfi : fi < files.length) :
    gpos files fi files[fi] = base files fi := by
  rw [gpos_eq files fi _ hfi, Nat.sub_self, Nat.add_zero]

theorem gpos_add_rem (files : List Nat) (fi rem : Nat) (hfi : fi < files.length) (hrem : rem ≤ files[fi]) :
    gpos files fi rem + rem = base files (fi+1) := by
  rw [gpos_eq files fi rem hfi, base_succ files fi hfi]; omega

theorem gpos_sub (files : List Nat) (fi rem m : Nat) (hfi : fi < files.length) (hrem : rem ≤ files[fi])
    (hm : m ≤ rem) : gpos files fi (rem - m) = gpos files fi rem + m := by
  rw [gpos_eq files fi _ hfi, gpos_eq files fi _ hfi]; omega

theorem expAux_nil (lo hi : Nat) :
    ∀ (l : List Nat) (idx b : Nat), hi ≤ max lo b → expectedSegsAux lo hi l idx b = [] := by
  intro l
  induction l with
  | nil => intros; rfl
  | cons n rest ih =>
    intro idx b h
    have h1 : ¬ (max lo b < min hi (b + n)) := by omega
    simp only [expectedSegsAux, h1, if_false, List.nil_append]
    exact ih _ _ (by omega)

theorem expAux_lo_congr (lo lo' hi : Nat) :
    ∀ (l : List Nat) (idx b : Nat), lo ≤ b → lo' ≤ b →
      expectedSegsAux lo hi l idx b = expectedSegsAux lo' hi l idx b := by
  intro l
  induction l with
  | nil => intros; rfl
  | cons n rest ih =>
    intro idx b h h'
    have h1 : max lo b = b := by omega
    have h2 : max lo' b = b := by omega
    simp only [expectedSegsAux, h1, h2]
    rw [ih _ _ (by omega) (by omega)]

def expFrom (files : List Nat) (lo hi fi : Nat) : List Seg :=
  expectedSegsAux lo hi (files.drop fi) fi (base files fi)

theorem expFrom_zero (files : List Nat) (lo hi : Nat) :
    expFrom files lo hi 0 = expectedSegsAux lo hi files 0 0 := by
  rw [expFrom, base_zero, List.drop_zero]

theorem expFrom_step (files : List Nat) (lo hi fi : Nat) (hfi : fi < files.length) :
    expFrom files lo hi fi =
      (if max lo (base files fi) < min hi (base files (fi+1)) then
        [⟨fi, max lo (base files fi) - base files fi,
          min hi (base files (fi+1)) - max lo (base files fi), files[fi]⟩] else [])
      ++ expFrom files lo hi (fi+1) := by
  unfold expFrom
  rw [List.drop_eq_getElem_cons hfi]
  simp only [expectedSegsAux, base_succ files fi hfi]

theorem expFrom_end (files : List Nat) (lo hi : Nat) : expFrom files lo hi files.length = [] := by
  simp [expFrom, expectedSegsAux]

theorem expFrom_nil (files : List Nat) (lo hi fi : Nat) (h : hi ≤ max lo (base files fi)) :
    expFrom files lo hi fi = [] := expAux_nil _ _ _ _ _ h

theorem expFrom_lo_congr (files : List Nat) (lo lo' hi fi : Nat)
    (h : lo ≤ base files fi) (h' : lo' ≤ base files fi) :
    expFrom files lo hi fi = expFrom files lo' hi fi := expAux_lo_congr _ _ _ _ _ _ h h'

theorem expFrom_zero_eq (files : List Nat) (lo hi : Nat) :
    ∀ fi, fi ≤ files.length → base files fi ≤ lo → expFrom files lo hi 0 = expFrom files lo hi fi := by
  intro fi
  induction fi with
  | zero => intros; rfl
  | succ k ih =>
    intro hk hb
    have hs := base_succ files k hk
    have : ¬ (max lo (base files k) < min hi (base files (k+1))) := by omega
    rw [ih (by omega) (by omega), expFrom_step files lo hi k hk, if_neg this, List.nil_append]

theorem expFrom_cursor (files : List Nat) (lo m n fi : Nat) (hfi : fi < files.length)
    (h1 : base files fi ≤ lo) (h2 : lo + m ≤ base files (fi+1)) (h3 : lo + m = base files (fi+1) ∨ n = 0) :
    expFrom files lo (lo + (m + n)) fi =
      (if 0 < m then [⟨fi, lo - base files fi, m, files[fi]⟩] else [])
        ++ expFrom files (lo + m) (lo + m + n) (fi+1) := by
  have e1 : max lo (base files fi) = lo := Nat.max_eq_left h1
  have e2 : min (lo + (m + n)) (base files (fi+1)) = lo + m := by omega
  rw [expFrom_step files _ _ fi hfi, expFrom_lo_congr files lo (lo + m) _ (fi+1) (Nat.le_trans (Nat.le_add_right _ _) h2) h2, Nat.add_assoc,
    e1, e2, Nat.add_sub_cancel_left]
  simp only [Nat.lt_add_right_iff_pos]

def CursorOk (files : List Nat) (fi rem : Nat) : Prop :=
  (fi = files.length ∧ rem = 0) ∨
  (fi < files.length ∧ rem ≤ files[fi]! ∧ (rem = 0 → files[fi]! = 0))

theorem CursorOk.of_lt {files : List Nat} {fi rem : Nat} (hfi : fi < files.length) (hrem : rem ≤ files[fi])
    (h0 : rem = 0 → files[fi] = 0) : CursorOk files fi rem := by
  refine .inr ⟨hfi, ?_⟩
  rw [getElem!_pos files fi hfi]
  exact ⟨hrem, h0⟩

def SegOk (files : List Nat) (s : Seg) : Prop :=
  some s.flen = files[s.file]? ∧ s.off + s.len ≤ s.flen ∧ (s.len = 0 → s.flen = 0)

structure FillPost (files : List Nat) (lo n fi : Nat) (segs : List Seg) (fi' rem' : Nat) : Prop where
  flat : segs.flatMap (addr files) = List.range' lo n
  pos : gpos files fi' rem' = lo + n
  cursor : CursorOk files fi' rem'
  segok : ∀ s ∈ segs, SegOk files s
  lower : ∀ s ∈ segs, fi ≤ s.file
  incr : (segs.map (·.file)).Pairwise (· < ·)
  sumlen : (segs.map (·.len)).sum = n
  closed : segs.filter (fun s => s.len > 0) = expFrom files lo (lo + n) fi

theorem FillPost_nil (files : List Nat) (lo fi fi' rem' : Nat) (hpos : gpos files fi' rem' = lo)
    (hc : CursorOk files fi' rem') : FillPost files lo 0 fi [] fi' rem' where
  flat := rfl
  pos := hpos
  cursor := hc
  segok := nofun
  lower := nofun
  incr := .nil
  sumlen := rfl
  closed := (expFrom_nil files lo (lo + 0) fi (Nat.le_max_left _ _)).symm

theorem FillPost_cons (files : List Nat) (fi rem m n fi' rem' : Nat) (segs : List Seg)
    (hfi : fi < files.length) (hrem : rem ≤ files[fi]) (hm : m ≤ rem) (hm0 : m = 0 → files[fi] = 0)
    (hmn : m = rem ∨ n = 0) (ih : FillPost files (gpos files fi rem + m) n (fi+1) segs fi' rem') :
    FillPost files (gpos files fi rem) (m + n) fi (⟨fi, files[fi] - rem, m, files[fi]⟩ :: segs) fi' rem' := by
  have hg := gpos_eq files fi rem hfi
  have hb := gpos_add_rem files fi rem hfi hrem
  refine ⟨?_, ?_, ih.cursor, ?_, ?_, ?_, ?_, ?_⟩
  · simp only [List.flatMap_cons, ih.flat, addr, ← hg]
    exact List.range'_append_1
  · rw [ih.pos, Nat.add_assoc]
  · exact List.forall_mem_cons.2
      ⟨⟨(List.getElem?_eq_getElem hfi).symm, by show files[fi] - rem + m ≤ files[fi]; omega, hm0⟩, ih.segok⟩
  · exact List.forall_mem_cons.2 ⟨Nat.le_refl _, fun s hs => Nat.le_of_succ_le (ih.lower s hs)⟩
  · exact List.pairwise_cons.2 ⟨List.forall_mem_map.2 ih.lower, ih.incr⟩
  · simp only [List.map_cons, List.sum_cons, ih.sumlen]
  · have ho : gpos files fi rem - base files fi = files[fi] - rem := by rw [hg, Nat.add_sub_cancel_left]
    rw [expFrom_cursor files _ m n fi hfi (hg ▸ Nat.le_add_right _ _) (hb ▸ Nat.add_le_add_left hm _)
      (hmn.imp_left fun h => by rw [h, hb]), ← ih.closed, List.filter_cons, ho]
    by_cases h : 0 < m <;> simp [h]

theorem fill_done (L : Nat) (files : List Nat) (n counted fi rem : Nat) (acc : List Seg)
    (h : ¬ counted < L) :
    fill L files (n+1) counted fi rem acc = some (acc, fi, rem) := by
  rw [fill, if_neg h]

/-- one iteration of the inner loop, case "the piece ends inside the current file" (and the failing loop test
    after it) -/
theorem fill_step_stop (L : Nat) (files : List Nat) (n counted fi rem : Nat) (acc : List Seg)
    (hc : counted < L) (hfi : fi < files.length) (hrem : rem ≤ files[fi]) (hgt : L - counted < rem) :
    fill L files (n+2) counted fi rem acc =
      some (acc ++ [⟨fi, files[fi] - rem, L - counted, files[fi]⟩], fi, rem - (L - counted)) := by
  have hget : files[fi]? = some files[fi] := List.getElem?_eq_getElem hfi
  rw [fill]
  have h1 : ¬ files[fi] < rem := by omega
  have h2 : rem ≥ L - counted := by omega
  have h3 : ¬ (rem - (L - counted) = 0) := by omega
  simp only [hc, if_true, hget, h1, if_false, h2, h3]
  rw [fill_done _ _ _ _ _ _ _ (by omega)]
  have h4 : rem - (rem - (L - counted)) = L - counted := by omega
  rw [h4]

/-- case "the current file is used up and is the last one" (the `break`) -/
theorem fill_step_last (L : Nat) (files : List Nat) (n counted fi rem : Nat) (acc : List Seg)
    (hc : counted < L) (hfi : fi < files.length) (hrem : rem ≤ files[fi]) (hle : rem ≤ L - counted)
    (hlast : fi + 1 = files.length) :
    fill L files (n+1) counted fi rem acc =
      some (acc ++ [⟨fi, files[fi] - rem, rem, files[fi]⟩], fi + 1, 0) := by
  have hget : files[fi]? = some files[fi] := List.getElem?_eq_getElem hfi
  rw [fill]
  have h1 : ¬ files[fi] < rem := by omega
  have h3 : (if rem ≥ L - counted then rem - (L - counted) else 0) = 0 := by split <;> omega
  simp only [hc, if_true, hget, h1, if_false, h3, hlast, Nat.sub_zero]

theorem fill_step_next (L : Nat) (files : List Nat) (n counted fi rem : Nat) (acc : List Seg)
    (hc : counted < L) (hfi : fi < files.length) (hrem : rem ≤ files[fi]) (hle : rem ≤ L - counted)
    (hnext : fi + 1 < files.length) :
    fill L files (n+1) counted fi rem acc =
      fill L files n (counted + rem) (fi + 1) files[fi+1] (acc ++ [⟨fi, files[fi] - rem, rem, files[fi]⟩]) := by
  have hget : files[fi]? = some files[fi] := List.getElem?_eq_getElem hfi
  have hget' : files[fi+1]? = some files[fi+1] := List.getElem?_eq_getElem hnext
  rw [fill]
  have h1 : ¬ files[fi] < rem := by omega
  have h3 : (if rem ≥ L - counted then rem - (L - counted) else 0) = 0 := by split <;> omega
  have h4 : (if rem ≥ L - counted then L else counted + rem) = counted + rem := by split <;> omega
  have h5 : ¬ (fi + 1 = files.length) := by omega
  simp only [hc, if_true, hget, h1, if_false, h3, h4, h5, hget', Nat.sub_zero]

/-- one run of the inner loop from a cursor inside the file list takes the next `min (L - counted) (bytes left)`
    bytes; every iteration moves to the next file, except the one that completes the piece and the failing loop
    test after it, hence the fuel bound -/
theorem fill_spec (L : Nat) (files : List Nat) :
    ∀ fuel counted fi rem acc,
      counted ≤ L → (hfi : fi < files.length) → rem ≤ files[fi] → (rem = 0 → files[fi] = 0) →
      files.length < fuel + fi →
      ∃ segs fi' rem', fill L files fuel counted fi rem acc = some (acc ++ segs, fi', rem') ∧
        FillPost files (gpos files fi rem) (min (L - counted) (files.sum - gpos files fi rem)) fi
          segs fi' rem' := by
  intro fuel
  induction fuel with
  | zero => intro _ _ _ _ _ _ _ _ h; omega
  | succ n ih =>
    intro counted fi rem acc hcL hfi hrem h0 hfuel
    have hb := gpos_add_rem files fi rem hfi hrem
    have hS : gpos files fi rem + rem ≤ files.sum := hb ▸ base_le files (fi+1)
    by_cases hc : counted < L
    · by_cases hgt : L - counted < rem
      · obtain ⟨m, rfl⟩ : ∃ m, n = m + 1 := ⟨n - 1, by omega⟩
        refine ⟨_, _, _, fill_step_stop L files m counted fi rem acc hc hfi hrem hgt, ?_⟩
        rw [Nat.min_eq_left (Nat.le_trans (Nat.le_of_lt hgt) (Nat.le_sub_of_add_le' hS))]
        exact FillPost_cons files fi rem _ 0 _ _ [] hfi hrem (Nat.le_of_lt hgt)
          (fun h => absurd h (Nat.sub_ne_zero_of_lt hc)) (.inr rfl)
          (FillPost_nil files _ _ _ _ (gpos_sub files fi rem _ hfi hrem (Nat.le_of_lt hgt))
            (.of_lt hfi (Nat.le_trans (Nat.sub_le _ _) hrem) (fun h => absurd h (Nat.sub_ne_zero_of_lt hgt))))
      · have hle := Nat.le_of_not_lt hgt
        by_cases hlast : fi + 1 = files.length
        · refine ⟨_, _, _, fill_step_last L files n counted fi rem acc hc hfi hrem hle hlast, ?_⟩
          have hall : gpos files fi rem + rem = files.sum := by rw [hb, hlast, base_all]
          rw [← hall, Nat.add_sub_cancel_left, Nat.min_eq_right hle]
          exact FillPost_cons files fi rem rem 0 _ _ [] hfi hrem (Nat.le_refl _) h0 (.inl rfl)
            (FillPost_nil files _ _ _ _ (by rw [hlast, gpos_end, hall]) (.inl ⟨hlast, rfl⟩))
        · have hnext := Nat.lt_of_le_of_ne (Nat.succ_le_of_lt hfi) hlast
          obtain ⟨segs, fi', rem', heq, hpost⟩ :=
            ih (counted + rem) (fi+1) files[fi+1] (acc ++ [⟨fi, files[fi] - rem, rem, files[fi]⟩])
              (Nat.add_le_of_le_sub' hcL hle) hnext (Nat.le_refl _) id (Nat.add_right_comm n 1 fi ▸ hfuel)
          refine ⟨⟨fi, files[fi] - rem, rem, files[fi]⟩ :: segs, fi', rem', ?_, ?_⟩
          · rw [fill_step_next L files n counted fi rem acc hc hfi hrem hle hnext, heq,
              List.append_assoc, List.singleton_append]
          · rw [gpos_full files (fi+1) hnext, ← hb] at hpost
            rw [Nat.sub_add_eq, Nat.sub_add_eq, Nat.sub_min_sub_right] at hpost
            rw [← Nat.add_sub_cancel' (Nat.le_min.2 ⟨hle, Nat.le_sub_of_add_le' hS⟩)]
            exact FillPost_cons files fi rem rem _ fi' rem' segs hfi hrem (Nat.le_refl _) h0 (.inl rfl) hpost
    · refine ⟨[], fi, rem, by rw [fill_done _ _ _ _ _ _ _ hc, List.append_nil], ?_⟩
      rw [Nat.sub_eq_zero_of_le (Nat.le_of_not_lt hc), Nat.zero_min]
      exact FillPost_nil files _ _ _ _ rfl (.of_lt hfi hrem h0)

/-- the fuel `files.length + 2` given to `fill` by `multiLoop` is never exhausted (and no other
    panic is reached) from a cursor satisfying the loop invariant -/
theorem fill_fuel_enough (L : Nat) (files : List Nat) (fi rem : Nat) (hfi : fi < files.length)
    (hrem : rem ≤ files[fi]) (h0 : rem = 0 → files[fi] = 0) :
    (fill L files (files.length + 2) 0 fi rem []).isSome = true := by
  obtain ⟨segs, fi', rem', heq, _⟩ :=
    fill_spec L files (files.length + 2) 0 fi rem [] (Nat.zero_le _) hfi hrem h0 (by omega)
  rw [heq]; rfl

structure PieceGood (L : Nat) (files : List Nat) (h : Bytes) (i : Nat) (p : Piece) : Prop where
  pos : p.pos = i
  hash : p.hash = h
  len : p.len = min L (files.sum - i * L)
  flat : p.segs.flatMap (addr files) = List.range' (i * L) (min L (files.sum - i * L))
  segok : ∀ s ∈ p.segs, SegOk files s
  incr : (p.segs.map (·.file)).Pairwise (· < ·)
  closed : p.segs.filter (fun s => s.len > 0) = expectedSegs L files i

theorem piece_end (k L S : Nat) (h : k * L ≤ S) : k * L + min L (S - k * L) = min ((k + 1) * L) S := by
  rw [Nat.succ_mul]; omega

theorem multi_spec (L : Nat) (files : List Nat) :
    ∀ (hs : List Bytes) (k fi rem : Nat), CursorOk files fi rem →
      gpos files fi rem = min (k * L) files.sum →
      (∀ j, j < hs.length → (k + j) * L < files.sum) →
      ∃ ps, multiLoop L files hs k fi rem = some ps ∧ ps.length = hs.length ∧
        ∀ j (h1 : j < ps.length) (h2 : j < hs.length), PieceGood L files hs[j] (k + j) ps[j] := by
  intro hs
  induction hs with
  | nil => intro k fi rem _ _ _; exact ⟨[], rfl, rfl, nofun⟩
  | cons h t ih =>
    intro k fi rem hcur hg hlt
    have hk : k * L < files.sum := hlt 0 (Nat.zero_lt_succ _)
    rw [Nat.min_eq_left (Nat.le_of_lt hk)] at hg
    rcases hcur with ⟨rfl, rfl⟩ | ⟨hfi, hrem, h0⟩
    · rw [gpos_end] at hg
      omega
    · rw [getElem!_pos files fi hfi] at hrem h0
      obtain ⟨segs, fi', rem', heq, hpost⟩ :=
        fill_spec L files (files.length + 2) 0 fi rem [] (Nat.zero_le _) hfi hrem h0 (by omega)
      rw [hg, Nat.sub_zero] at hpost
      have hpos := hpost.pos
      rw [piece_end k L _ (Nat.le_of_lt hk)] at hpos
      obtain ⟨ps, hps, hlen, hgood⟩ := ih (k + 1) fi' rem' hpost.cursor hpos
        (fun j hj => by rw [Nat.add_right_comm]; exact hlt (j + 1) (Nat.succ_lt_succ hj))
      refine ⟨⟨k, segs, h, (segs.map (·.len)).sum⟩ :: ps, ?_, congrArg (· + 1) hlen, ?_⟩
      · rw [multiLoop, heq, List.nil_append]
        simp only [hps]
      · intro j h1 h2
        cases j with
        | zero =>
          refine ⟨rfl, rfl, hpost.sumlen, hpost.flat, hpost.segok, hpost.incr, ?_⟩
          have hbase : base files fi ≤ k * L := by rw [← hg, gpos_eq files fi rem hfi]; exact Nat.le_add_right _ _
          exact hpost.closed.trans (by
            rw [← expFrom_zero_eq files _ _ fi (Nat.le_of_lt hfi) hbase, expFrom_zero, piece_end k L _ (Nat.le_of_lt hk)]; rfl)
        | succ j =>
          have := hgood j (Nat.lt_of_succ_lt_succ h1) (Nat.lt_of_succ_lt_succ h2)
          rwa [Nat.add_right_comm] at this

theorem flatMap_pieces (L total : Nat) (f : Piece → List Nat) :
    ∀ (ps : List Piece) (k : Nat),
      (∀ j (h : j < ps.length), f ps[j] = List.range' ((k + j) * L) (min L (total - (k + j) * L))) →
      ps.flatMap f = List.range' (k * L) (min (ps.length * L) (total - k * L)) := by
  intro ps
  induction ps with
  | nil => intro k _; simp
  | cons p t ih =>
    intro k h
    have hp : f p = List.range' (k * L) (min L (total - k * L)) := h 0 (Nat.zero_lt_succ _)
    have ht := ih (k + 1) (fun j hj => by rw [Nat.add_right_comm]; exact h (j + 1) (Nat.succ_lt_succ hj))
    rw [List.flatMap_cons, ht, hp, List.length_cons, Nat.succ_mul k, Nat.succ_mul t.length]
    rw [Nat.sub_add_eq]
    rcases Nat.le_total L (total - k * L) with hL | hL
    · rw [Nat.min_eq_left hL, List.range'_append_1, ← Nat.add_min_add_left, Nat.add_sub_cancel' hL, Nat.add_comm L]
    · rw [Nat.min_eq_right hL, Nat.sub_eq_zero_of_le hL, Nat.min_zero, List.range'_zero, List.append_nil,
        Nat.min_eq_right (Nat.le_trans hL (Nat.le_add_left _ _))]

theorem multiLoop_single (L total : Nat) (hL : 0 < L) :
    ∀ (hs : List Bytes) (pos start rem : Nat), start + rem = total → (∀ j, j < hs.length → j * L < rem) →
      multiLoop L [total] hs pos 0 rem = some (singleLoop L total hs pos start rem) := by
  intro hs
  induction hs with
  | nil => intros; rfl
  | cons h t ih =>
    intro pos start rem hsum hlt
    have hfi : 0 < [total].length := Nat.zero_lt_succ _
    have hrem : rem ≤ total := hsum ▸ Nat.le_add_left _ _
    have hoff : total - rem = start := Nat.sub_eq_of_eq_add hsum.symm
    rw [multiLoop, singleLoop]
    by_cases hgt : L < rem
    · rw [fill_step_stop L [total] _ 0 0 rem [] hL hfi hrem hgt]
      simp only [Nat.sub_zero]
      rw [ih (pos + 1) (start + L) (rem - L) (by omega) fun j hj =>
        Nat.lt_sub_of_add_lt (Nat.succ_mul j L ▸ hlt (j + 1) (Nat.succ_lt_succ hj))]
      simp [if_neg (Nat.lt_asymm hgt), hoff]
    · obtain rfl : t = [] := by
        cases t with
        | nil => rfl
        | cons _ _ => exact absurd (Nat.one_mul L ▸ hlt 1 (Nat.succ_lt_succ (Nat.zero_lt_succ _))) hgt
      rw [fill_step_last L [total] _ 0 0 rem [] hL hfi hrem (Nat.le_of_not_lt hgt) rfl]
      have : (if rem < L then rem else L) = rem := by split <;> omega
      simp [multiLoop, singleLoop, this, hoff]

theorem ceil_lt (L total n : Nat) (hL : 0 < L) (hn : n = (total + L - 1) / L) :
    ∀ j, j < n → j * L < total := by
  intro j hj
  subst hn
  have h1 : (j + 1) * L ≤ total + L - 1 := (Nat.le_div_iff_mul_le hL).1 hj
  rw [Nat.succ_mul] at h1
  omega

theorem ceil_ge (L total n : Nat) (hL : 0 < L) (hn : n = (total + L - 1) / L) :
    total ≤ n * L := by
  subst hn
  have h1 := Nat.lt_mul_div_succ (total + L - 1) hL
  rw [Nat.mul_succ, Nat.mul_comm] at h1
  omega

theorem pieceCountOk_lt {total L n : Nat} (h : pieceCountOk total L n = true) : ∀ j, j < n → j * L < total := by
  unfold pieceCountOk at h
  split at h
  · simp only [Bool.and_eq_true, decide_eq_true_eq] at h
    intro j hj
    omega
  · rename_i h0
    exact ceil_lt L total n (Nat.pos_of_ne_zero h0) (of_decide_eq_true h)

theorem increasingFiles_of_pairwise :
    ∀ l : List Seg, (l.map (·.file)).Pairwise (· < ·) → increasingFiles l = true := by
  intro l
  induction l with
  | nil => intro _; rfl
  | cons a t ih =>
    intro h
    cases t with
    | nil => rfl
    | cons b r =>
      simp only [List.map_cons, List.pairwise_cons] at h ih
      simp only [increasingFiles, Bool.and_eq_true, decide_eq_true_eq]
      exact ⟨h.1 _ (by simp), ih h.2⟩

theorem checkPiece_of_good (L : Nat) (files : List Nat) (hashes : List Bytes) (h : Bytes) (i : Nat)
    (p : Piece) (hg : PieceGood L files h i p) (hh : hashes[i]? = some h) :
    checkPiece L files hashes i p = true := by
  unfold checkPiece
  simp only [Bool.and_eq_true, beq_iff_eq, List.all_eq_true, decide_eq_true_eq, Bool.or_eq_true]
  refine ⟨⟨⟨⟨⟨hg.pos, by rw [hg.hash, hh]⟩, hg.len⟩, hg.closed⟩, ?_⟩, increasingFiles_of_pairwise _ hg.incr⟩
  intro s hs
  obtain ⟨h1, h2, h3⟩ := hg.segok s hs
  refine ⟨⟨h1, h2⟩, ?_⟩
  by_cases h0 : s.len = 0
  · exact Or.inr (h3 h0)
  · exact Or.inl (Nat.pos_of_ne_zero h0)

theorem checkPiecesAux_of_forall (L : Nat) (files : List Nat) (hashes : List Bytes) :
    ∀ (ps : List Piece) (i : Nat),
      (∀ j (h : j < ps.length), checkPiece L files hashes (i + j) ps[j] = true) →
      checkPiecesAux L files hashes i ps = true := by
  intro ps
  induction ps with
  | nil => intros; rfl
  | cons p t ih =>
    intro i h
    simp only [checkPiecesAux, Bool.and_eq_true]
    refine ⟨h 0 (Nat.zero_lt_succ _), ih (i + 1) ?_⟩
    intro j hj
    rw [Nat.add_right_comm]
    exact h (j + 1) (Nat.succ_lt_succ hj)

theorem checkLayout_of_good (L : Nat) (files : List Nat) (hashes : List Bytes) (ps : List Piece)
    (hlen : ps.length = hashes.length)
    (hgood : ∀ j (h1 : j < ps.length) (h2 : j < hashes.length), PieceGood L files hashes[j] j ps[j]) :
    checkLayout L files hashes ps = true := by
  unfold checkLayout
  simp only [Bool.and_eq_true, beq_iff_eq]
  refine ⟨hlen, checkPiecesAux_of_forall L files hashes ps 0 ?_⟩
  intro j hj
  have h2 : j < hashes.length := hlen ▸ hj
  rw [Nat.zero_add]
  exact checkPiece_of_good L files hashes hashes[j] j ps[j] (hgood j hj h2) (List.getElem?_eq_getElem h2)

/-- the multi-file layout for a hash list no longer than the piece count (`L = 0` included): no panic, every piece
    as specified, and the pieces cover, in order, an initial part of the byte space -/
theorem multi_top (L : Nat) (files : List Nat) (hashes : List Bytes) (hne : files ≠ [])
    (hlt : ∀ j, j < hashes.length → j * L < files.sum) :
    ∃ ps, constructMulti L files hashes = some ps ∧ ps.length = hashes.length ∧
      (∀ j (h1 : j < ps.length) (h2 : j < hashes.length), PieceGood L files hashes[j] j ps[j]) ∧
      ps.flatMap (fun p => p.segs.flatMap (addr files)) =
        List.range' 0 (min (hashes.length * L) files.sum) := by
  cases files with
  | nil => exact absurd rfl hne
  | cons f0 rest =>
    obtain ⟨ps, hps, hlen, hgood⟩ :=
      multi_spec L (f0 :: rest) hashes 0 0 f0 (.of_lt (Nat.zero_lt_succ _) (Nat.le_refl _) id)
        (by simp [gpos, base_zero]) (fun j hj => by rw [Nat.zero_add]; exact hlt j hj)
    simp only [Nat.zero_add] at hgood
    refine ⟨ps, hps, hlen, hgood, ?_⟩
    rw [flatMap_pieces L (f0 :: rest).sum _ ps 0 (fun j hj => by
        rw [Nat.zero_add]; exact (hgood j hj (hlen ▸ hj)).flat),
      Nat.zero_mul, Nat.sub_zero, hlen]

theorem constructMulti_single (L total : Nat) (hashes : List Bytes) (hL : 0 < L)
    (hlt : ∀ j, j < hashes.length → j * L < total) :
    constructMulti L [total] hashes = some (constructSingle L total hashes) :=
  multiLoop_single L total hL hashes 0 0 total (Nat.zero_add _) hlt

theorem single_top (L total : Nat) (hashes : List Bytes) (hL : 0 < L)
    (hlt : ∀ j, j < hashes.length → j * L < total) :
    (constructSingle L total hashes).length = hashes.length ∧
      (∀ j (h1 : j < (constructSingle L total hashes).length) (h2 : j < hashes.length),
        PieceGood L [total] hashes[j] j (constructSingle L total hashes)[j]) ∧
      (constructSingle L total hashes).flatMap (fun p => p.segs.flatMap (addr [total])) =
        List.range' 0 (min (hashes.length * L) total) := by
  obtain ⟨ps, hps, h⟩ := multi_top L [total] hashes (List.cons_ne_nil _ _) hlt
  rw [constructMulti_single L total hashes hL hlt] at hps
  cases hps
  exact h

end TB
