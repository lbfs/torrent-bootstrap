/-
  The safety invariant `Inv` of the executor transition system (C05): what a worker knows at each program
  counter (`WInv`), which queue locks it may hold there (`mayHold`), conservation of the items; and the list
  lemmas its preservation needs.
-/
import TB.Spec.ExecSpec
namespace TB.Exec

/-- program counters at which the worker holds the state lock `S` -/
def holdsS : Pc → Bool
  | .haveState | .exiting | .wantLocal | .haveLocal | .cont1 | .cont2 | .collect _ | .bal
  | .release _ _ | .dec _ | .unlockState => true
  | _ => false

/-- program counters that are only reached by a worker `i < active_threads` -/
def needsActive : Pc → Bool
  | .wantLocal | .haveLocal | .collect _ | .bal | .release _ _ => true
  | _ => false

/-- program counters only reached by a worker `i ≥ active_threads` -/
def exited : Pc → Bool
  | .exiting | .done => true
  | _ => false

/-- the pending deactivation count -/
def pendingDec : Pc → Option Nat
  | .release _ d => some d
  | .dec d => some d
  | _ => none

/-- the item a worker has in hand -/
def hand : Pc → Option Nat
  | .popped (some x) => some x
  | .solving x => some x
  | _ => none

/-- the queue locks worker `h` may hold at program counter `pc` (`a` = `active_threads`) -/
def mayHold (a h : Nat) (pc : Pc) (j : Nat) : Prop :=
  match pc with
  | .popped _ => j = h
  | .haveLocal => j = h
  | .cont1 => j = h
  | .collect k => j = h ∨ j ∈ (others h a).take k
  | .bal => j < a
  | .release k _ => k ≤ j ∧ j < a
  | _ => False

theorem hand_popped (item : Option Nat) : hand (.popped item) = item := by
  cases item <;> rfl

theorem inHand_eq (s : ExSt) : inHand s = s.pcs.flatMap (fun pc => (hand pc).toList) := by
  unfold inHand
  induction s.pcs with
  | nil => rfl
  | cons pc l ih =>
    rw [List.flatMap_cons, ← ih]
    cases pc with
    | popped item => cases item <;> rfl
    | _ => rfl

theorem holdsS_of_needsActive {pc : Pc} (h : needsActive pc = true) : holdsS pc = true := by
  cases pc <;> first | rfl | cases h

theorem holdsS_of_pendingDec {pc : Pc} {d : Nat} (h : pendingDec pc = some d) : holdsS pc = true := by
  cases pc <;> first | rfl | cases h

theorem mayHold_of_not_holdsS {a a' h j : Nat} {pc : Pc} (hn : holdsS pc = false)
    (hm : mayHold a h pc j) : mayHold a' h pc j := by
  cases pc <;> first | exact hm | cases hn

theorem holdsS_of_mayHold_ne {a h j : Nat} {pc : Pc} (hm : mayHold a h pc j) (hne : h ≠ j) :
    holdsS pc = true := by
  cases pc <;> first | rfl | exact hm.elim | exact absurd hm.symm hne

theorem mem_others {i a j : Nat} : j ∈ others i a ↔ j < a ∧ j ≠ i := by
  simp [others]

theorem others_nodup (i a : Nat) : (others i a).Nodup :=
  List.Nodup.sublist List.filter_sublist List.nodup_range

theorem others_length_le (i A : Nat) : (others i A).length ≤ A := by
  have := List.length_filter_le (· != i) (List.range A)
  rwa [List.length_range] at this

/-- what worker `i` at `pc` knows about the state lock, `active_threads` and the queues -/
structure WInv (st : Option Nat) (act : Nat) (qs : List (List Nat)) (i : Nat) (pc : Pc) : Prop where
  hs : holdsS pc = true → st = some i
  na : needsActive pc = true → i < act
  ex : exited pc = true → act ≤ i
  pd : ∀ d, pendingDec pc = some d → ∀ j, act - d ≤ j → qs[j]?.getD [] = []

/-- the inductive safety invariant (`qs0` = the initial queues) -/
structure Inv (qs0 : List (List Nat)) (s : ExSt) : Prop where
  lenQ : s.queues.length = s.pcs.length
  lenL : s.qlock.length = s.pcs.length
  actLe : s.active ≤ s.pcs.length
  cons : List.Perm (s.solved ++ inHand s ++ s.queues.flatten) qs0.flatten
  sHeld : ∀ h, s.stateLock = some h → ∃ pc, s.pcs[h]? = some pc ∧ holdsS pc = true
  wrk : ∀ i pc, s.pcs[i]? = some pc → WInv s.stateLock s.active s.queues i pc
  qHold : ∀ j h, s.qlock[j]? = some (some h) → ∃ pc, s.pcs[h]? = some pc ∧ mayHold s.active h pc j
  tail : ∀ j, s.active ≤ j → s.queues[j]?.getD [] = []

theorem WInv.mono_q {st : Option Nat} {a : Nat} {qs qs' : List (List Nat)} {i : Nat} {pc : Pc}
    (hq : ∀ j : Nat, qs[j]?.getD [] = [] → qs'[j]?.getD [] = []) (h : WInv st a qs i pc) : WInv st a qs' i pc :=
  ⟨h.hs, h.na, h.ex, fun d hd j hj => hq j (h.pd d hd j hj)⟩

theorem WInv.of_not_holdsS {st : Option Nat} {a : Nat} {qs : List (List Nat)} {i : Nat} {pc : Pc}
    (hn : holdsS pc = false) (hex : exited pc = true → a ≤ i) : WInv st a qs i pc := by
  refine ⟨fun h' => ?_, fun h' => ?_, hex, fun d hd => ?_⟩
  · rw [hn] at h'; cases h'
  · rw [holdsS_of_needsActive h'] at hn; cases hn
  · rw [holdsS_of_pendingDec hd] at hn; cases hn

theorem Inv.holder_unique {qs0 : List (List Nat)} {s : ExSt} (hinv : Inv qs0 s) {i k : Nat} {pc pck : Pc}
    (hi : s.pcs[i]? = some pc) (hk : s.pcs[k]? = some pck) (h1 : holdsS pc = true) (h2 : holdsS pck = true) :
    k = i := by
  have a := (hinv.wrk i pc hi).hs h1
  rw [(hinv.wrk k pck hk).hs h2] at a
  exact Option.some.inj a

theorem Inv.qlock_cases {qs0 : List (List Nat)} {s : ExSt} (hinv : Inv qs0 s) {t : Nat} (ht : t < s.pcs.length) :
    s.qlock[t]? = some none ∨
      ∃ x pcx, s.qlock[t]? = some (some x) ∧ s.pcs[x]? = some pcx ∧ mayHold s.active x pcx t := by
  match hv : s.qlock[t]? with
  | none =>
    rw [List.getElem?_eq_none_iff, hinv.lenL] at hv
    exact absurd ht (Nat.not_lt.2 hv)
  | some none => exact .inl rfl
  | some (some x) =>
    obtain ⟨pcx, hpcx, hm⟩ := hinv.qHold t x hv
    exact .inr ⟨x, pcx, rfl, hpcx, hm⟩

theorem Inv.none_not_holdsS {qs0 : List (List Nat)} {s : ExSt} (hinv : Inv qs0 s) {j : Nat} {pc : Pc}
    (hst : s.stateLock = none) (hj : s.pcs[j]? = some pc) : holdsS pc = false := by
  cases hh : holdsS pc with
  | false => rfl
  | true =>
    have := (hinv.wrk j pc hj).hs hh
    rw [hst] at this
    cases this

theorem lt_of_getElem?_eq_some {α : Type} {l : List α} {i : Nat} {a : α} (h : l[i]? = some a) : i < l.length :=
  (List.getElem?_eq_some_iff.1 h).1

theorem not_mem_take_of_nodup {l : List Nat} (hnd : l.Nodup) {k t : Nat} (hk : l[k]? = some t) :
    t ∉ l.take k := by
  intro hmem
  obtain ⟨m, hm, hmt⟩ := List.getElem_of_mem hmem
  rw [List.length_take] at hm
  rw [List.getElem_take] at hmt
  have hml : m < l.length := by omega
  have : l[m]? = l[k]? := by rw [hk, List.getElem?_eq_getElem hml, hmt]
  have := (List.getElem?_inj hml hnd).1 this
  omega

theorem getElem?_of_drop_eq {α : Type} {l l' : List α} {a j : Nat} (h : l'.drop a = l.drop a) (hj : a ≤ j) :
    l'[j]? = l[j]? := by
  have := congrArg (fun m => m[j - a]?) h
  simp only [List.getElem?_drop] at this
  rwa [Nat.add_sub_cancel' hj] at this

theorem flatMap_set_perm {α β : Type} (g : α → List β) {l : List α} {i : Nat} {a b : α} (hi : l[i]? = some a) :
    (g a ++ (l.set i b).flatMap g).Perm (g b ++ l.flatMap g) := by
  induction l generalizing i with
  | nil => cases hi
  | cons x l ih =>
    cases i with
    | zero => cases hi; exact List.perm_append_comm_assoc ..
    | succ i =>
      exact (List.perm_append_comm_assoc ..).trans
        (((ih hi).append_left (g x)).trans (List.perm_append_comm_assoc ..))

theorem flatten_set_dropLast (qs : List (List Nat)) (i : Nat) (q : List Nat) (hi : qs[i]? = some q) :
    List.Perm (q.getLast?.toList ++ (qs.set i q.dropLast).flatten) qs.flatten := by
  have h := flatMap_set_perm id (b := q.dropLast) hi
  rw [List.flatMap_id, List.flatMap_id] at h
  have hq : q.dropLast ++ q.getLast?.toList = q := by
    rcases List.eq_nil_or_concat q with rfl | ⟨l, b, rfl⟩ <;> simp
  refine (List.perm_append_left_iff q.dropLast).1 (.trans (.of_eq ?_) h)
  rw [← List.append_assoc, hq]
  rfl

theorem empty_set_dropLast (qs : List (List Nat)) (i j : Nat) (h : qs[j]?.getD [] = []) :
    (qs.set i (qs[i]?.getD []).dropLast)[j]?.getD [] = [] := by
  rw [List.getElem?_set]
  split
  · rename_i hij
    subst hij
    split
    · rw [h]; rfl
    · rfl
  · exact h

theorem flatten_eq_nil_of_forall (qs : List (List Nat)) (h : ∀ j : Nat, qs[j]?.getD [] = []) : qs.flatten = [] := by
  rw [List.flatten_eq_nil_iff]
  intro l hl
  obtain ⟨j, hj, rfl⟩ := List.getElem_of_mem hl
  have := h j
  rw [List.getElem?_eq_getElem hj] at this
  exact this

/-- conservation of items when worker `i` moves from `pc` to `pc'`: it is enough to account for the item in `i`'s
    hand; the hands of the other workers cancel (compare the number of occurrences of each item) -/
theorem cons_step {s s' : ExSt} {i : Nat} {pc pc' : Pc} (hpc : s.pcs[i]? = some pc)
    (hpcs : s'.pcs = s.pcs.set i pc')
    (h : (s'.solved ++ ((hand pc').toList ++ s'.queues.flatten)).Perm
      (s.solved ++ ((hand pc).toList ++ s.queues.flatten))) :
    (s'.solved ++ inHand s' ++ s'.queues.flatten).Perm (s.solved ++ inHand s ++ s.queues.flatten) := by
  rw [List.perm_iff_count] at h ⊢
  intro a
  have h1 := (flatMap_set_perm (fun pc => (hand pc).toList) (b := pc') hpc).count_eq a
  have h2 := h a
  rw [inHand_eq, inHand_eq, hpcs]
  simp only [List.count_append] at h1 h2 ⊢
  omega

end TB.Exec
