/-
  RunKCex: the world that refutes `C04_run_preserved` (TB.Props.C04h) without the hypothesis `hsame`, as a
  checked example. `H` is the identity.

  One multi-file torrent lists the path `x` twice (finding D6): file 0 = `x` with length 2, file 1 = `x` with
  length 0, file 2 = `y` with length 1; piece length 2, piece hashes `[1, 2]` and `[3]`. The layout gives piece 0
  the range [0,2) of file 0 and piece 1 a zero-length segment of file 1 followed by the range [0,1) of file 2. The
  image of `x` exists with content `[1, 2]`, so piece 0 verifies in the initial tree. The scan directory holds the
  empty file `s/0` (candidate for file 1) and `s/1 = [3]` (candidate for file 2). No faults, no resize pass, default
  order (last piece first):
    * piece 1 is found; its zero-length segment is written to the image of `x`: `set_len 0` empties the image;
    * piece 0 is then looked for in its own image, which is empty: not found.
  After the run (and at every interruption point after that `set_len`) piece 0 no longer verifies. `FsWF`, `NoAlias`,
  `SegsInRange`, `RangesDisjoint` (a zero-length range overlaps nothing) and `HInjOn` all hold; what fails is that
  entries with the same export image declare the same length.
-/
import TB.Lemmas.RunK
import TB.Lemmas.RunJCex
namespace TB.RunK

/-- `Disj` in a form `decide` can check on a concrete work list (bounded indices; the padding flags are not looked at) -/
theorem Disj.of_check {work : List Work}
    (h1 : ∀ a ∈ List.range work.length, ∀ b ∈ List.range work.length, a ≠ b →
      ∀ s ∈ (work[a]?.getD default).segs, ∀ t ∈ (work[b]?.getD default).segs,
        s.ent.fullTarget = t.ent.fullTarget → s.off + s.len ≤ t.off ∨ t.off + t.len ≤ s.off)
    (h2 : ∀ w ∈ work, ∀ a ∈ List.range w.segs.length, ∀ b ∈ List.range w.segs.length, a ≠ b →
      (w.segs[a]?.getD default).ent.fullTarget ≠ (w.segs[b]?.getD default).ent.fullTarget) : Disj work := by
  constructor
  · intro a b w v ha hb hab s hs t ht _ _ heq
    obtain ⟨ra, rfl⟩ := List.getElem?_getD_range ha
    obtain ⟨rb, rfl⟩ := List.getElem?_getD_range hb
    exact h1 a ra b rb hab s hs t ht heq
  · intro w hw a b s t ha hb hab _ _
    obtain ⟨ra, rfl⟩ := List.getElem?_getD_range ha
    obtain ⟨rb, rfl⟩ := List.getElem?_getD_range hb
    exact h2 w hw a ra b rb hab

theorem HInj.id (work : List Work) : HInj id work :=
  fun w _ b b' h1 h2 => (show b = w.hash from h1).trans (show b' = w.hash from h2).symm

end TB.RunK

namespace TB.RunK.Cex
open TB

def ih : Bytes := [0xAB]
def nm : Bytes := [110]
def x : Bytes := [120]
def y : Bytes := [121]
def eDir : Path := [[101]]
def sDir : Path := [[115]]
def root : Path := eDir ++ [hex ih, sData]
def imgx : Path := root ++ [nm, x]
def imgy : Path := root ++ [nm, y]

def tor : Torrent := ⟨⟨nm, none, some [⟨2, [x]⟩, ⟨0, [x]⟩, ⟨1, [y]⟩], 2, [[1, 2], [3]]⟩, ih⟩

def fs0 : Fs :=
  { files := [(imgx, 0), (sDir ++ [[49]], 1), (sDir ++ [[48]], 2)],
    dirs := [eDir, sDir, eDir ++ [hex ih], root, root ++ [nm]],
    data := [(0, [1, 2]), (1, [3]), (2, [])],
    next := 3 }

def inp : RunIn :=
  { fs := fs0, torrents := [tor], scan := [⟨true, sDir⟩], exportDir := ⟨true, eDir⟩, resize := false,
    searchObs := [], order := [], faults := [] }

def e0 : TEntry := ⟨0, ih, 0, 2, imgx, [x], false, some [imgx]⟩
def e1 : TEntry := ⟨1, ih, 1, 0, imgx, [x], false, some [sDir ++ [[48]]]⟩
def e2 : TEntry := ⟨2, ih, 2, 1, imgy, [y], false, some [sDir ++ [[49]]]⟩
def w0 : Work := ⟨[⟨2, 0, e0⟩], [1, 2]⟩
def w1 : Work := ⟨[⟨0, 0, e1⟩, ⟨1, 0, e2⟩], [3]⟩

/-- the run, evaluated once: the facts about it that are used below are the components of this one conjunction, because
    the kernel shares the evaluation of `run id inp` inside one declaration only -/
theorem evaluated :
    (run id inp).table = [e0, e1, e2] ∧ (run id inp).work = [w0, w1] ∧
    (run id inp).fs.data = [(3, [3]), (0, []), (1, [3]), (2, [])] ∧
    ((run id inp).ops.filter (fun o => o.kind.mutating)).map (fun o => (o.kind, o.path))
      = [(.mkdirs, root ++ [nm]), (.openc, imgx), (.setlen 0, imgx), (.write 0 [], imgx),
         (.mkdirs, root ++ [nm]), (.openc, imgy), (.setlen 1, imgy), (.write 0 [3], imgy)] ∧
    ((run id inp).result = .ok () ∧ (run id inp).resolutionOk = true) ∧
    ¬ VerE id (run id inp).fs w0 := by decide +kernel

theorem run_table : (run id inp).table = [e0, e1, e2] := evaluated.1
theorem run_work : (run id inp).work = [w0, w1] := evaluated.2.1
theorem run_data : (run id inp).fs.data = [(3, [3]), (0, []), (1, [3]), (2, [])] := evaluated.2.2.1
/-- the mutations: the image of `x` is emptied by the zero-length segment of piece 1 -/
example : ((run id inp).ops.filter (fun o => o.kind.mutating)).map (fun o => (o.kind, o.path))
    = [(.mkdirs, root ++ [nm]), (.openc, imgx), (.setlen 0, imgx), (.write 0 [], imgx),
       (.mkdirs, root ++ [nm]), (.openc, imgy), (.setlen 1, imgy), (.write 0 [3], imgy)] := evaluated.2.2.2.1
example : inp.faults = [] := rfl
example : (run id inp).result = .ok () ∧ (run id inp).resolutionOk = true := evaluated.2.2.2.2.1

/-! the other hypotheses of `C04_run_preserved` hold -/

theorem wf : FsWF inp.fs := by decide +kernel

theorem noAlias : RunJ.NoAl inp.fs (run id inp).table := by
  rw [run_table]
  exact RunJ.NoAl.of_check fs0 _ (by decide +kernel)

theorem segsInRange : ∀ w ∈ (run id inp).work, SegsInRange w := by
  rw [run_work]
  decide +kernel

theorem disj : Disj (run id inp).work := by
  rw [run_work]
  exact Disj.of_check (by decide +kernel) (by decide +kernel)

theorem hinj : HInj id (run id inp).work := HInj.id _

theorem w0_mem : w0 ∈ (run id inp).work := by rw [run_work]; exact List.mem_cons_self

theorem w0_ver : VerE id inp.fs w0 := by decide +kernel

/-! the conclusion fails, and so does `hsame` -/

theorem not_sameLen : ¬ RunJ.SameLen (run id inp).table := by
  rw [run_table]
  decide +kernel

theorem w0_not_ver : ¬ VerE id (run id inp).fs w0 := evaluated.2.2.2.2.2

end TB.RunK.Cex
