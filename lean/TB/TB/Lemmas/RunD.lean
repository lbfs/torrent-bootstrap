/-
  What C11 and C13 need: replay of the log, success of every operation behind `found`, fault locality.
-/
import TB.Lemmas.RunDBase
import TB.Lemmas.RunDReplay
import TB.Lemmas.RunDOk
import TB.Lemmas.RunDSim
