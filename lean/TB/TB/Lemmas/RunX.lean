/-
  The critical sections of `FileWriter::write` commute.

  A critical section is what one worker does under the per-file lock for one segment of a verified piece:
  `create_dir_all(parent)`, open(write, create, no truncate), `set_len(declared length)`, seek, `write_all`.
  The executor model treats a whole piece evaluation as one atomic step; here the sections of different pieces
  are exchanged one by one.

  Route. Inode numbers of freshly created files depend on the order of creation, so two orders are compared through
  the observable part of the tree (`View`: which paths are directories, the bytes behind every bound name, which
  names share a file). On a well-formed tree a critical section is a function `vcrit` of the view alone
  (`crit_view`), and on views two compatible sections commute with EQUALITY (`vcrit_comm`). Lists of sections, blocks
  of sections and permutations of blocks are then handled on views (`vrun_perm`), and carried back to trees by
  `crits_view`.
-/
import TB.Props.C04a
import TB.Lemmas.RunR
import TB.Lemmas.RunK
namespace TB.RunX
open TB

/-- the directories `create_dir_all (parent t)` walks through -/
def mk (t : Path) : List Path := Fs.properPrefixes t.dropLast ++ [t.dropLast]

theorem wf_mkdirs_ok_iff {fs : Fs} (hwf : FsWF fs) (d : Path) :
    (fs.mkdirs d).2 = true ↔ ∀ q ∈ Fs.properPrefixes d ++ [d], fs.inoOf q = none := by
  rw [RunF.mkdirs_ok_iff]
  exact forall₂_congr fun q _ => ⟨fun h => h.elim (RunF.wf_dir_not_file hwf) id, Or.inr⟩

end TB.RunX

namespace TB

/-- the parameters of one critical section of `FileWriter::write`: target path, declared file length, offset and
    bytes of the segment -/
structure Sec where
  t : Path
  L : Nat
  off : Nat
  d : Bytes
deriving Repr, DecidableEq

/-- one critical section, as `writeSegs` (TB.Model.Run) performs it for one segment when no operation faults:
    `create_dir_all (parent t)`; open(write, create, no truncate) `t`; the handle is the inode `look t` now gives;
    `set_len L`; positional write of `d` at `off`. `none` = one of the steps fails (the writer answers `fault`);
    `RunX.writeOne_nil` / `RunX.writeOne_nil_conv` tie it to the model. -/
def Fs.crit (fs : Fs) (t : Path) (L off : Nat) (d : Bytes) : Option Fs :=
  let r1 := fs.mkdirs t.dropLast
  if !r1.2 then none else
  let r2 := r1.1.openCreate t
  if !r2.2.isSome then none else
  match r2.1.look t with
  | .file i => some ((r2.1.setLen i L).writeAt i off d)
  | _ => none

end TB
namespace TB.RunX
open TB

def upd (L off : Nat) (d : Bytes) (c : Bytes) : Bytes := wr off d (sl L c)

/-- what a successful critical section did, in terms of names, inodes and contents -/
structure CritSpec (fs : Fs) (t : Path) (L off : Nat) (d : Bytes) (fs' : Fs) (i : Nat) : Prop where
  wf : FsWF fs'
  dir : ∀ p, fs'.isDir p = (fs.isDir p || (mk t).contains p)
  ino_t : fs'.inoOf t = some i
  ino_other : ∀ p, p ≠ t → fs'.inoOf p = fs.inoOf p
  origin : (fs.inoOf t = some i ∧ fs'.content i = upd L off d (fs.content i)) ∨
           (fs.inoOf t = none ∧ i = fs.next ∧ fs'.content i = upd L off d [])
  content_other : ∀ j, j ≠ i → fs'.content j = fs.content j

theorem mem_mk_of_properPrefix {t q : Path} (h : q ∈ Fs.properPrefixes t) : q ∈ mk t :=
  RunF.properPrefixes_sub_dropLast h

/-! the ways through `Fs.crit`, by the answer of `create_dir_all` and by what the open finds -/

theorem crit_blocked {fs : Fs} {t : Path} (L off : Nat) (d : Bytes) (hm : (fs.mkdirs t.dropLast).2 = false) :
    fs.crit t L off d = none := by
  simp only [Fs.crit, hm, Bool.not_false, if_true]

theorem crit_dir {fs fs1 : Fs} {t : Path} (L off : Nat) (d : Bytes) (hm : fs.mkdirs t.dropLast = (fs1, true))
    (hl : fs1.look t = .dir) : fs.crit t L off d = none := by
  simp only [Fs.crit, Fs.openCreate, hm, hl, Bool.not_true, Bool.false_eq_true, if_false, Option.isSome_none,
    Bool.not_false, if_true]

theorem crit_file {fs fs1 : Fs} {t : Path} (L off : Nat) (d : Bytes) {i : Nat} (hm : fs.mkdirs t.dropLast = (fs1, true))
    (hl : fs1.look t = .file i) : fs.crit t L off d = some ((fs1.setLen i L).writeAt i off d) := by
  simp only [Fs.crit, hm, RunF.openCreate_file hl, hl, Bool.not_true, Bool.false_eq_true, if_false, Option.isSome_some]

theorem crit_new {fs fs1 : Fs} {t : Path} (L off : Nat) (d : Bytes) (hm : fs.mkdirs t.dropLast = (fs1, true))
    (hl : fs1.look t = .notFound) (hpar : fs1.isDir t.dropLast = true) :
    fs.crit t L off d = some (((RunF.addFile fs1 t).setLen fs1.next L).writeAt fs1.next off d) := by
  simp only [Fs.crit, hm, RunF.openCreate_new hl hpar, RunF.look_addFile hl, Bool.not_true, Bool.false_eq_true, if_false,
    Option.isSome_some]

/-- well-formedness does not look at contents -/
theorem wf_setData {fs : Fs} (hwf : FsWF fs) (i : Nat) (bs : Bytes) : FsWF (fs.setData i bs) := hwf

theorem content_setData (fs : Fs) (i j : Nat) (bs : Bytes) :
    (fs.setData i bs).content j = if j = i then bs else fs.content j := by
  split
  · rename_i h; subst h; exact RD.Fs.content_setData _ _ _
  · rename_i h; exact RD.Fs.content_setData_ne _ _ _ _ h

/-- success of a critical section from a well-formed tree -/
def CritOk (fs : Fs) (t : Path) : Prop :=
  (∀ q ∈ mk t, fs.inoOf q = none) ∧ (fs.isDir t || (mk t).contains t) = false

theorem crit_spec {fs : Fs} (hwf : FsWF fs) (t : Path) (L off : Nat) (d : Bytes) :
    (¬ CritOk fs t ∧ fs.crit t L off d = none) ∨
    (CritOk fs t ∧ ∃ fs' i, fs.crit t L off d = some fs' ∧ CritSpec fs t L off d fs' i) := by
  by_cases hok : ∀ q ∈ mk t, fs.inoOf q = none
  · have hm : (fs.mkdirs t.dropLast).2 = true := (wf_mkdirs_ok_iff hwf _).2 hok
    obtain ⟨e1, e2, e3, e4⟩ := RunF.mkdirs_exact _ hm
    have e4 : ∀ p, (fs.mkdirs t.dropLast).1.isDir p = (fs.isDir p || (mk t).contains p) := e4
    have hwf1 : FsWF (fs.mkdirs t.dropLast).1 := (RunF.loc_mkdirs (fun _ => True) fs _).wf hwf
    obtain ⟨fs1, hfs⟩ : ∃ fs1, fs.mkdirs t.dropLast = (fs1, true) := ⟨_, Prod.ext rfl hm⟩
    rw [hfs] at e1 e2 e3 e4 hwf1
    have hino : ∀ p, fs1.inoOf p = fs.inoOf p := RunF.inoOf_congr e1
    have hcon : ∀ j, fs1.content j = fs.content j := RunF.content_congr e2
    have hl := RunF.look_of_prefixes_free (fs := fs1) (t := t) fun q hq => by
      rw [hino]; exact hok q (mem_mk_of_properPrefix hq)
    cases hd : fs1.isDir t with
    | true =>
      rw [hd, if_pos rfl] at hl
      refine Or.inl ⟨fun h => ?_, crit_dir L off d hfs hl⟩
      have := h.2
      rw [← e4, hd] at this; cases this
    | false =>
      rw [hd, if_neg Bool.false_ne_true, hino] at hl
      refine Or.inr ⟨⟨hok, by rw [← e4]; exact hd⟩, ?_⟩
      cases hi : fs.inoOf t with
      | some i =>
        rw [hi] at hl
        refine ⟨_, i, crit_file L off d hfs hl, ?_⟩
        rw [setLen_eq, writeAt_eq]
        refine ⟨wf_setData (wf_setData hwf1 _ _) _ _, e4, (hino t).trans hi,
          fun p _ => hino p, Or.inl ⟨hi, ?_⟩, ?_⟩
        · simp only [content_setData, if_true, hcon]; rfl
        · intro j hj
          simp only [content_setData, if_neg hj, hcon]
      | none =>
        rw [hi] at hl
        have hpar : fs1.isDir t.dropLast = true := by rw [e4]; simp [mk]
        have hwf2 : FsWF (RunF.addFile fs1 t) := (RunF.loc_addFile (T := fun _ => True) trivial hl (fun q hq => by
          rw [e4, List.contains_iff_mem.2 (mem_mk_of_properPrefix hq), Bool.or_true])).wf hwf1
        refine ⟨_, fs.next, e3 ▸ crit_new L off d hfs hl hpar, ?_⟩
        rw [setLen_eq, writeAt_eq]
        refine ⟨wf_setData (wf_setData hwf2 _ _) _ _, e4, ?_, ?_, Or.inr ⟨hi, rfl, ?_⟩, ?_⟩
        · show (RunF.addFile fs1 t).inoOf t = _
          rw [RunF.inoOf_addFile, if_pos rfl, e3]
        · intro p hp
          show (RunF.addFile fs1 t).inoOf p = _
          rw [RunF.inoOf_addFile, if_neg (fun e => hp e.symm), hino]
        · simp only [content_setData, if_true]
          rw [← e3, RunF.content_addFile_new]; rfl
        · intro j hj
          simp only [content_setData, if_neg hj]
          rw [RunF.content_addFile _ _ _ (by rw [e3]; exact hj), hcon]
  · refine Or.inl ⟨fun h => hok h.1, crit_blocked L off d ?_⟩
    cases hh : (fs.mkdirs t.dropLast).2 with
    | false => rfl
    | true => exact absurd ((wf_mkdirs_ok_iff hwf _).1 hh) hok

end TB.RunX

namespace TB

/-- observational equivalence of two trees — what a tool that opens paths can tell apart: the same directories;
    the same bound names; behind every bound name the same bytes (the inode NUMBERS may differ: a created file gets
    the next free number, which depends on the order of creation); and the same pairs of bound names share a file
    (so that a later write through one name shows through the other in both trees or in neither).
    `dirs`/`files`/`data` as lists, `next`, and the content of unbound inodes are not observable. -/
def ObsEq (fs fs' : Fs) : Prop :=
  (∀ p, fs.isDir p = fs'.isDir p) ∧
  (∀ p, (fs.inoOf p).isSome = (fs'.inoOf p).isSome) ∧
  (∀ p i j, fs.inoOf p = some i → fs'.inoOf p = some j → fs.content i = fs'.content j) ∧
  (∀ p q, (fs.inoOf p).isSome = true → (fs.inoOf q).isSome = true →
    (fs.inoOf p = fs.inoOf q ↔ fs'.inoOf p = fs'.inoOf q))

end TB
namespace TB.RunX
open TB

/-- the observable part of a tree: `D p` — `p` is a directory; `F p` — the bytes behind the name `p`, if bound;
    `A p q` — `p` and `q` are bound to the same inode -/
structure View where
  D : Path → Bool
  F : Path → Option Bytes
  A : Path → Path → Bool

theorem View.ext' {v w : View} (hD : ∀ p, v.D p = w.D p) (hF : ∀ p, v.F p = w.F p) (hA : ∀ p q, v.A p q = w.A p q) :
    v = w := by
  cases v; cases w
  simp only [View.mk.injEq]
  exact ⟨funext hD, funext hF, funext fun p => funext fun q => hA p q⟩

def view (fs : Fs) : View :=
  ⟨fs.isDir, fun p => (fs.inoOf p).map fs.content, fun p q => (fs.inoOf p).isSome && fs.inoOf p == fs.inoOf q⟩

theorem obsEq_iff_view (fs fs' : Fs) : ObsEq fs fs' ↔ view fs = view fs' := by
  constructor
  · rintro ⟨h1, h2, h3, h4⟩
    apply View.ext'
    · exact h1
    · intro p
      show (fs.inoOf p).map fs.content = (fs'.inoOf p).map fs'.content
      have := h2 p
      cases hp : fs.inoOf p with
      | none =>
        rw [hp] at this
        cases hp' : fs'.inoOf p with
        | none => rfl
        | some j => rw [hp'] at this; cases this
      | some i =>
        rw [hp] at this
        cases hp' : fs'.inoOf p with
        | none => rw [hp'] at this; cases this
        | some j => simp [h3 p i j hp hp']
    · intro p q
      show ((fs.inoOf p).isSome && fs.inoOf p == fs.inoOf q) = ((fs'.inoOf p).isSome && fs'.inoOf p == fs'.inoOf q)
      have h2p := h2 p
      have h2q := h2 q
      cases hp : fs.inoOf p with
      | none =>
        rw [hp] at h2p
        cases hp' : fs'.inoOf p with
        | none => rfl
        | some j => rw [hp'] at h2p; cases h2p
      | some i =>
        rw [hp] at h2p
        cases hp' : fs'.inoOf p with
        | none => rw [hp'] at h2p; cases h2p
        | some j =>
          cases hq : fs.inoOf q with
          | none =>
            rw [hq] at h2q
            cases hq' : fs'.inoOf q with
            | none => rfl
            | some j => rw [hq'] at h2q; cases h2q
          | some i' =>
            have := h4 p q (by rw [hp]; rfl) (by rw [hq]; rfl)
            rw [hp, hq, hp'] at this
            simp only [Option.isSome_some, Bool.true_and]
            rw [Bool.eq_iff_iff]
            simpa using this
  · intro h
    have hD : ∀ p, fs.isDir p = fs'.isDir p := fun p => congrFun (congrArg View.D h) p
    have hF : ∀ p, (fs.inoOf p).map fs.content = (fs'.inoOf p).map fs'.content :=
      fun p => congrFun (congrArg View.F h) p
    have hA : ∀ p q, ((fs.inoOf p).isSome && fs.inoOf p == fs.inoOf q)
        = ((fs'.inoOf p).isSome && fs'.inoOf p == fs'.inoOf q) :=
      fun p q => congrFun (congrFun (congrArg View.A h) p) q
    have h2 : ∀ p, (fs.inoOf p).isSome = (fs'.inoOf p).isSome := by
      intro p
      have := congrArg Option.isSome (hF p)
      simpa using this
    refine ⟨hD, h2, ?_, ?_⟩
    · intro p i j hi hj
      have := hF p
      rw [hi, hj] at this
      simpa using this
    · intro p q hp _
      have := hA p q
      rw [← h2 p, hp, Bool.true_and, Bool.true_and, Bool.eq_iff_iff] at this
      simpa using this

/-- success of a critical section on the observable part of a tree: none of the names `create_dir_all` walks
    through is a regular file and the target is not a directory -/
def vok (v : View) (s : Sec) : Bool :=
  (mk s.t).all (fun q => (v.F q).isNone) && !(v.D s.t || (mk s.t).contains s.t)

/-- what a successful critical section does to the observable part: the walked names are directories, the target
    and every name sharing its inode show `set_len L; write off d` applied to the old bytes (`[]` for a new file),
    and a new target shares its file with nobody -/
def vstep (v : View) (s : Sec) : View :=
  ⟨fun p => v.D p || (mk s.t).contains p,
   fun p => if p = s.t ∨ v.A p s.t = true then some (upd s.L s.off s.d ((v.F s.t).getD [])) else v.F p,
   fun p q => v.A p q || (p == s.t && q == s.t)⟩

/-- a critical section on the observable part of a tree -/
def vcrit (v : View) (s : Sec) : Option View := if vok v s then some (vstep v s) else none

theorem vcrit_eq (v : View) (s : Sec) : vcrit v s = if vok v s then some (vstep v s) else none := rfl

theorem vok_view (fs : Fs) (s : Sec) : vok (view fs) s = true ↔ CritOk fs s.t := by
  unfold CritOk vok view
  simp only [Bool.and_eq_true, List.all_eq_true, Bool.not_eq_true', Option.isNone_iff_eq_none, Option.map_eq_none_iff]

theorem view_A {fs : Fs} {p q : Path} :
    (view fs).A p q = true ↔ ∃ j, fs.inoOf p = some j ∧ fs.inoOf q = some j := by
  show ((fs.inoOf p).isSome && fs.inoOf p == fs.inoOf q) = true ↔ _
  cases fs.inoOf p with
  | none => simp
  | some i =>
    simp only [Option.isSome_some, Bool.true_and, beq_iff_eq, Option.some.injEq]
    exact ⟨fun e => ⟨i, rfl, e.symm⟩, fun ⟨j, e, e'⟩ => e ▸ e'.symm⟩

/-- HOMOMORPHISM: on a well-formed tree, the observable part of the result of a critical section (and whether there
    is a result) is `vcrit` of the observable part of the tree. `FsWF` is used for: a directory is not a regular
    file (so `create_dir_all` fails exactly at regular files), bound inodes are below `next` (so the created inode
    is shared with nobody). -/
theorem crit_view {fs : Fs} (hwf : FsWF fs) (s : Sec) :
    (fs.crit s.t s.L s.off s.d).map view = vcrit (view fs) s := by
  rcases crit_spec hwf s.t s.L s.off s.d with ⟨hno, hc⟩ | ⟨hok, fs', i, hc, sp⟩
  · rw [hc, vcrit_eq, if_neg (fun h => hno ((vok_view fs s).1 h))]
    rfl
  · rw [hc, vcrit_eq, if_pos ((vok_view fs s).2 hok)]
    -- the two cases of `sp.origin` (old file, new file) in one form: the names bound to `i` afterwards are `s.t`
    -- and the old names of `s.t`'s inode, and `i` holds the update of what `s.t` showed before
    have hino : ∀ p, fs'.inoOf p = if p = s.t then some i else fs.inoOf p := fun p => by
      by_cases hp : p = s.t
      · rw [if_pos hp, hp]; exact sp.ino_t
      · rw [if_neg hp]; exact sp.ino_other p hp
    have hcl : ∀ p j, fs.inoOf p = some j → (j = i ↔ fs.inoOf s.t = some j) := fun p j hj => by
      rcases sp.origin with ⟨h1, _⟩ | ⟨h1, h3, _⟩ <;> rw [h1]
      · exact ⟨fun e => e ▸ rfl, fun e => (Option.some.inj e).symm⟩
      · have := RunF.inoOf_lt hwf hj
        exact ⟨fun e => by omega, fun e => by cases e⟩
    have hci : fs'.content i = upd s.L s.off s.d (((fs.inoOf s.t).map fs.content).getD []) := by
      rcases sp.origin with ⟨h1, h2⟩ | ⟨h1, _, h2⟩ <;> rw [h1] <;> exact h2
    refine congrArg some (View.ext' sp.dir (fun p => ?_) (fun p q => ?_))
    · show (fs'.inoOf p).map fs'.content = if p = s.t ∨ (view fs).A p s.t = true
        then some (upd s.L s.off s.d (((fs.inoOf s.t).map fs.content).getD [])) else (fs.inoOf p).map fs.content
      rw [hino p]
      by_cases hp : p = s.t
      · rw [if_pos hp, if_pos (Or.inl hp)]; exact congrArg some hci
      · rw [if_neg hp]
        cases hj : fs.inoOf p with
        | none =>
          rw [if_neg]
          · rfl
          · rintro (h | h)
            · exact hp h
            · obtain ⟨_, e, _⟩ := view_A.1 h
              rw [hj] at e; cases e
        | some j =>
          by_cases hji : j = i
          · rw [if_pos (Or.inr (view_A.2 ⟨j, hj, (hcl p j hj).1 hji⟩)), hji]; exact congrArg some hci
          · rw [if_neg]
            · exact congrArg some (sp.content_other j hji)
            · rintro (h | h)
              · exact hp h
              · obtain ⟨_, e, e'⟩ := view_A.1 h
                rw [hj] at e; cases e
                exact hji ((hcl p j hj).2 e')
    · show (view fs').A p q = ((view fs).A p q || (p == s.t && q == s.t))
      rw [Bool.eq_iff_iff, Bool.or_eq_true, view_A, view_A, hino p, hino q, Bool.and_eq_true, beq_iff_eq, beq_iff_eq]
      by_cases hp : p = s.t <;> by_cases hq : q = s.t
      · rw [if_pos hp, if_pos hq]
        exact ⟨fun _ => Or.inr ⟨hp, hq⟩, fun _ => ⟨i, rfl, rfl⟩⟩
      · rw [if_pos hp, if_neg hq, hp]
        constructor
        · rintro ⟨j, e, e'⟩
          cases e
          exact Or.inl ⟨i, (hcl q i e').1 rfl, e'⟩
        · rintro (⟨j, e, e'⟩ | ⟨_, h⟩)
          · exact ⟨i, rfl, (hcl q j e').2 e ▸ e'⟩
          · exact absurd h hq
      · rw [if_neg hp, if_pos hq, hq]
        constructor
        · rintro ⟨j, e', e⟩
          cases e
          exact Or.inl ⟨i, e', (hcl p i e').1 rfl⟩
        · rintro (⟨j, e', e⟩ | ⟨h, _⟩)
          · exact ⟨i, (hcl p j e').2 e ▸ e', rfl⟩
          · exact absurd h hp
      · rw [if_neg hp, if_neg hq]
        exact ⟨Or.inl, fun h => h.elim id (fun h => absurd h.1 hp)⟩

theorem crit_wf {fs fs' : Fs} (hwf : FsWF fs) {t : Path} {L off : Nat} {d : Bytes}
    (h : fs.crit t L off d = some fs') : FsWF fs' := by
  rcases crit_spec hwf t L off d with ⟨_, hc⟩ | ⟨_, fs'', i, hc, sp⟩
  · rw [hc] at h; cases h
  · rw [hc] at h; cases h; exact sp.wf

theorem upd_comm (L o1 o2 : Nat) (d1 d2 c : Bytes) (h1 : o1 + d1.length ≤ L) (h2 : o2 + d2.length ≤ L)
    (h : o1 + d1.length ≤ o2 ∨ o2 + d2.length ≤ o1) :
    upd L o2 d2 (upd L o1 d1 c) = upd L o1 d1 (upd L o2 d2 c) := by
  unfold upd
  rw [sl_wr_comm L o1 d1 _ h1, sl_wr_comm L o2 d2 _ h2, sl_idem, wr_comm o2 o1 d2 d1 _ h.symm]

/-- the alias relation of a view is a partial equivalence whose domain lies inside the bound names -/
structure VInv (v : View) : Prop where
  sym : ∀ p q, v.A p q = true → v.A q p = true
  trans : ∀ p q r, v.A p q = true → v.A q r = true → v.A p r = true
  dom : ∀ p q, v.A p q = true → (v.F p).isSome = true

theorem vinv_view (fs : Fs) : VInv (view fs) := by
  refine ⟨?_, ?_, ?_⟩
  · intro p q h
    simp only [view, Bool.and_eq_true, beq_iff_eq] at h ⊢
    exact ⟨by rw [← h.2]; exact h.1, h.2.symm⟩
  · intro p q r h1 h2
    simp only [view, Bool.and_eq_true, beq_iff_eq] at h1 h2 ⊢
    exact ⟨h1.1, h1.2.trans h2.2⟩
  · intro p q h
    simp only [view, Bool.and_eq_true, beq_iff_eq] at h ⊢
    simpa using h.1

theorem vinv_step {v : View} (hv : VInv v) (s : Sec) : VInv (vstep v s) := by
  refine ⟨?_, ?_, ?_⟩
  · intro p q h
    simp only [vstep, Bool.or_eq_true, Bool.and_eq_true, beq_iff_eq] at h ⊢
    rcases h with h | ⟨h1, h2⟩
    · exact Or.inl (hv.sym _ _ h)
    · exact Or.inr ⟨h2, h1⟩
  · intro p q r h1 h2
    simp only [vstep, Bool.or_eq_true, Bool.and_eq_true, beq_iff_eq] at h1 h2 ⊢
    rcases h1 with h1 | ⟨h1, h1'⟩ <;> rcases h2 with h2 | ⟨h2, h2'⟩
    · exact Or.inl (hv.trans _ _ _ h1 h2)
    · subst h2'; subst h2; exact Or.inl h1
    · subst h1'; subst h1; exact Or.inl h2
    · exact Or.inr ⟨h1, h2'⟩
  · intro p q h
    simp only [vstep, Bool.or_eq_true, Bool.and_eq_true, beq_iff_eq] at h ⊢
    rcases h with h | ⟨h1, _⟩
    · have := hv.dom _ _ h
      split
      · rfl
      · exact this
    · rw [if_pos (Or.inl h1)]; rfl

/-- two critical sections may be exchanged: both write inside the declared length; on the same image they
    declare the same length and write disjoint ranges; different images do not share an inode -/
structure Comp (v : View) (a b : Sec) : Prop where
  ra : a.off + a.d.length ≤ a.L
  rb : b.off + b.d.length ≤ b.L
  same : a.t = b.t → a.L = b.L ∧ (a.off + a.d.length ≤ b.off ∨ b.off + b.d.length ≤ a.off)
  diff : a.t ≠ b.t → v.A a.t b.t = false ∧ v.A b.t a.t = false

theorem Comp.symm {v : View} {a b : Sec} (h : Comp v a b) : Comp v b a :=
  ⟨h.rb, h.ra, fun e => ⟨((h.same e.symm).1).symm, (h.same e.symm).2.symm⟩, fun e => ((h.diff (Ne.symm e))).symm⟩

theorem Comp.step {v : View} {a b : Sec} (h : Comp v a b) (s : Sec) : Comp (vstep v s) a b := by
  refine ⟨h.ra, h.rb, h.same, fun e => ?_⟩
  obtain ⟨h1, h2⟩ := h.diff e
  simp only [vstep, h1, h2, Bool.false_or, Bool.and_eq_false_imp, beq_iff_eq]
  constructor
  · intro e1; simpa using fun e2 : b.t = s.t => e (e1.trans e2.symm)
  · intro e1; simpa using fun e2 : a.t = s.t => e (e2.trans e1.symm)

theorem vok_step {v : View} (hv : VInv v) (s1 s2 : Sec) :
    vok (vstep v s1) s2 = (vok v s2 && !(mk s2.t).contains s1.t && !(mk s1.t).contains s2.t) := by
  have hF : ∀ q, ((vstep v s1).F q).isNone = ((v.F q).isNone && !(q == s1.t)) := by
    intro q
    simp only [vstep]
    by_cases hq : q = s1.t
    · simp [hq]
    · by_cases hA : v.A q s1.t = true
      · have := hv.dom _ _ hA
        rw [Option.isSome_iff_ne_none] at this
        simp [hA, this]
      · simp [hq, hA]
  unfold vok
  simp only [hF]
  rw [Bool.eq_iff_iff]
  simp only [vstep, Bool.and_eq_true, List.all_eq_true, Bool.or_eq_false_iff,
    List.contains_eq_mem, decide_eq_false_iff_not, Bool.not_eq_eq_eq_not, Bool.not_true, beq_eq_false_iff_ne]
  constructor
  · rintro ⟨h1, ⟨h2, h3⟩, h4⟩
    exact ⟨⟨⟨fun q hq => (h1 q hq).1, h2, h4⟩, fun hm => (h1 _ hm).2 rfl⟩, h3⟩
  · rintro ⟨⟨⟨h1, h2, h4⟩, h5⟩, h3⟩
    exact ⟨fun q hq => ⟨h1 q hq, fun e => h5 (e ▸ hq)⟩, ⟨h2, h3⟩, h4⟩

theorem vstep_vstep_F_same (v : View) {a b : Sec} (h : a.t = b.t) (p : Path) :
    ((vstep (vstep v a) b).F p) = if p = a.t ∨ v.A p a.t = true
      then some (upd b.L b.off b.d (upd a.L a.off a.d ((v.F a.t).getD []))) else v.F p := by
  simp only [vstep, ← h, beq_self_eq_true, Bool.and_true, Bool.or_eq_true, beq_iff_eq, true_or, if_true,
    Option.getD_some]
  by_cases hC : p = a.t ∨ v.A p a.t = true
  · rw [if_pos (hC.elim Or.inl (fun h => Or.inr (Or.inl h))), if_pos hC]
  · rw [if_neg (fun h => hC (h.elim Or.inl (fun h => h.elim Or.inr Or.inl))), if_neg hC, if_neg hC]

theorem vstep_vstep_F_diff {v : View} {a b : Sec} (h : a.t ≠ b.t) (hba : v.A b.t a.t = false) (p : Path) :
    ((vstep (vstep v a) b).F p) =
      if p = b.t ∨ v.A p b.t = true then some (upd b.L b.off b.d ((v.F b.t).getD []))
      else if p = a.t ∨ v.A p a.t = true then some (upd a.L a.off a.d ((v.F a.t).getD [])) else v.F p := by
  have hne : (b.t == a.t) = false := beq_false_of_ne (Ne.symm h)
  simp only [vstep, hne, Bool.and_false, Bool.or_false, hba, Bool.false_eq_true, or_false, if_neg (Ne.symm h)]

theorem vstep_comm {v : View} (hv : VInv v) {s1 s2 : Sec} (hc : Comp v s1 s2) :
    vstep (vstep v s1) s2 = vstep (vstep v s2) s1 := by
  apply View.ext'
  · intro p
    simp only [vstep, Bool.or_assoc]
    rw [Bool.or_comm ((mk s1.t).contains p)]
  · intro p
    by_cases ht : s1.t = s2.t
    · obtain ⟨hL, hd⟩ := hc.same ht
      rw [vstep_vstep_F_same v ht, vstep_vstep_F_same v ht.symm, ← ht, ← hL,
        upd_comm s1.L _ _ _ _ _ hc.ra (hL ▸ hc.rb) hd]
    · obtain ⟨h12, h21⟩ := hc.diff ht
      rw [vstep_vstep_F_diff ht h21, vstep_vstep_F_diff (Ne.symm ht) h12]
      -- the two classes are disjoint
      have hex : ¬ ((p = s1.t ∨ v.A p s1.t = true) ∧ (p = s2.t ∨ v.A p s2.t = true)) := by
        rintro ⟨a | a, b | b⟩
        · exact ht (a.symm.trans b)
        · rw [a, h12] at b; cases b
        · rw [b, h21] at a; cases a
        · have := hv.trans _ _ _ (hv.sym _ _ a) b
          rw [h12] at this; cases this
      by_cases c1 : p = s1.t ∨ v.A p s1.t = true
      · rw [if_pos c1, if_neg (fun c2 => hex ⟨c1, c2⟩), if_pos c1]
      · rw [if_neg c1, if_neg c1]
  · intro p q
    simp only [vstep, Bool.or_assoc]
    rw [Bool.or_comm (p == s1.t && q == s1.t)]

theorem vcrit_comm {v : View} (hv : VInv v) {s1 s2 : Sec} (hc : Comp v s1 s2) :
    (vcrit v s1).bind (vcrit · s2) = (vcrit v s2).bind (vcrit · s1) := by
  simp only [vcrit_eq]
  have e1 := vok_step hv s1 s2
  have e2 := vok_step hv s2 s1
  cases h1 : vok v s1 <;> cases h2 : vok v s2 <;>
    simp only [Bool.false_eq_true, if_false, if_true, Option.bind_none, Option.bind_some, e1, e2, h1, h2,
      Bool.false_and, Bool.true_and]
  · rw [vstep_comm hv hc, Bool.and_comm]

end TB.RunX

namespace TB

/-- a sequence of critical sections, each on the tree the previous one left; `none` as soon as one fails -/
def Fs.crits (fs : Fs) : List Sec → Option Fs
  | [] => some fs
  | s :: l => (fs.crit s.t s.L s.off s.d).bind (fun fs' => Fs.crits fs' l)

end TB
namespace TB.RunX
open TB

def vrun (v : View) : List Sec → Option View
  | [] => some v
  | s :: l => (vcrit v s).bind (fun v' => vrun v' l)

/-- a run of steps `f`, `none` as soon as one fails (`Fs.crits`, `vrun`), over a concatenation -/
theorem run_append {σ α : Type} {f : σ → α → Option σ} {run : σ → List α → Option σ}
    (h0 : ∀ x, run x [] = some x) (h1 : ∀ x s l, run x (s :: l) = (f x s).bind (fun y => run y l))
    (x : σ) (a b : List α) : run x (a ++ b) = (run x a).bind (fun y => run y b) := by
  induction a generalizing x with
  | nil => rw [h0]; rfl
  | cons s a ih =>
    rw [List.cons_append, h1, h1, Option.bind_assoc]
    exact Option.bind_congr fun y _ => ih y

theorem vrun_append (v : View) (a b : List Sec) : vrun v (a ++ b) = (vrun v a).bind (fun v' => vrun v' b) :=
  run_append (fun _ => rfl) (fun _ _ _ => rfl) v a b

theorem crits_append (fs : Fs) (a b : List Sec) : fs.crits (a ++ b) = (fs.crits a).bind (fun fs' => fs'.crits b) :=
  run_append (fun _ => rfl) (fun _ _ _ => rfl) fs a b

theorem vcrit_induct {P : View → Prop} (hs : ∀ {v}, P v → ∀ s, P (vstep v s)) {v v' : View} {s : Sec}
    (hv : P v) (h : vcrit v s = some v') : P v' := by
  rw [vcrit_eq] at h
  split at h
  · cases h; exact hs hv s
  · cases h

theorem vrun_induct {P : View → Prop} (hs : ∀ {v}, P v → ∀ s, P (vstep v s)) {l : List Sec} :
    ∀ {v v' : View}, P v → vrun v l = some v' → P v' := by
  induction l with
  | nil => intro v v' hv h; cases h; exact hv
  | cons s l ih =>
    intro v v' hv h
    rw [vrun] at h
    cases h1 : vcrit v s with
    | none => rw [h1] at h; cases h
    | some v1 => rw [h1] at h; exact ih (vcrit_induct hs hv h1) h

theorem vrun_swap {v : View} (hv : VInv v) {a b : Sec} (hc : Comp v a b) (l : List Sec) :
    vrun v (a :: b :: l) = vrun v (b :: a :: l) := by
  simp only [vrun, ← Option.bind_assoc]
  rw [vcrit_comm hv hc]

theorem vrun_move {v : View} (hv : VInv v) (a : Sec) (B l : List Sec) (hc : ∀ b ∈ B, Comp v a b) :
    vrun v (a :: (B ++ l)) = vrun v (B ++ a :: l) := by
  induction B generalizing v with
  | nil => rfl
  | cons b B ih =>
    rw [List.cons_append, vrun_swap hv (hc b List.mem_cons_self)]
    simp only [List.cons_append, vrun]
    refine Option.bind_congr fun v1 h1 => ?_
    exact ih (vcrit_induct vinv_step hv h1) (fun x hx => vcrit_induct (P := (Comp · a x)) Comp.step (hc x (List.mem_cons_of_mem _ hx)) h1)

theorem vrun_block_swap {v : View} (hv : VInv v) (A B l : List Sec) (hc : ∀ a ∈ A, ∀ b ∈ B, Comp v a b) :
    vrun v (A ++ (B ++ l)) = vrun v (B ++ (A ++ l)) := by
  induction A generalizing v with
  | nil => rfl
  | cons a A ih =>
    rw [List.cons_append, List.cons_append, ← vrun_move hv a B (A ++ l) (hc a List.mem_cons_self)]
    simp only [vrun]
    refine Option.bind_congr fun v1 h1 => ?_
    exact ih (vcrit_induct vinv_step hv h1)
      (fun x hx y hy => vcrit_induct (P := (Comp · x y)) Comp.step (hc x (List.mem_cons_of_mem _ hx) y hy) h1)

def BComp (v : View) (A B : List Sec) : Prop := ∀ a ∈ A, ∀ b ∈ B, Comp v a b

theorem BComp.symm {v : View} {A B : List Sec} (h : BComp v A B) : BComp v B A :=
  fun b hb a ha => (h a ha b hb).symm

/-- a list of blocks of sections, blocks pairwise compatible (nothing is asked inside a block): the blocks may be
    permuted. Induction on `List.Perm` — `swap` is `vrun_block_swap`, `cons` uses that compatibility persists along
    a run (`Comp.step` through `vrun_induct`: a created file shares its inode with nobody), `trans` that
    compatibility is symmetric. -/
theorem vrun_perm {ls ls' : List (List Sec)} (hp : List.Perm ls ls') :
    ∀ v, VInv v → ls.Pairwise (BComp v) → vrun v ls.flatten = vrun v ls'.flatten := by
  induction hp with
  | nil => intro v _ _; rfl
  | cons x _ ih =>
    intro v hv hpw
    rw [List.flatten_cons, List.flatten_cons, vrun_append, vrun_append]
    refine Option.bind_congr fun v1 h1 => ?_
    apply ih v1 (vrun_induct vinv_step hv h1)
    exact (List.pairwise_cons.1 hpw).2.imp (fun hab a ha b hb => vrun_induct (P := (Comp · a b)) Comp.step (hab a ha b hb) h1)
  | swap x y l =>
    intro v hv hpw
    simp only [List.flatten_cons]
    apply vrun_block_swap hv
    have := (List.pairwise_cons.1 hpw).1 x List.mem_cons_self
    exact this
  | trans h1 _ ih1 ih2 =>
    intro v hv hpw
    rw [ih1 v hv hpw]
    apply ih2 v hv
    exact h1.pairwise hpw (fun h => h.symm)

theorem crits_view {fs : Fs} (hwf : FsWF fs) (l : List Sec) :
    (fs.crits l).map view = vrun (view fs) l ∧ ∀ fs', fs.crits l = some fs' → FsWF fs' := by
  induction l generalizing fs with
  | nil =>
    refine ⟨rfl, ?_⟩
    intro fs' h; cases h; exact hwf
  | cons s l ih =>
    have hv := crit_view hwf s
    simp only [Fs.crits, vrun]
    cases h : fs.crit s.t s.L s.off s.d with
    | none =>
      rw [h] at hv
      rw [← hv]
      exact ⟨rfl, fun _ h' => by cases h'⟩
    | some fs1 =>
      rw [h] at hv
      rw [← hv]
      exact ih (crit_wf hwf h)

end TB.RunX

namespace TB

/-- two critical sections that may be exchanged, from tree `fs`: both write inside the declared length; on the same
    image they declare the same length and write disjoint ranges; different images do not share an inode in `fs` -/
structure SecComp (fs : Fs) (a b : Sec) : Prop where
  ra : a.off + a.d.length ≤ a.L
  rb : b.off + b.d.length ≤ b.L
  same : a.t = b.t → a.L = b.L ∧ (a.off + a.d.length ≤ b.off ∨ b.off + b.d.length ≤ a.off)
  diff : a.t ≠ b.t → ∀ i j, fs.inoOf a.t = some i → fs.inoOf b.t = some j → i ≠ j

end TB
namespace TB.RunX
open TB

theorem view_A_false {fs : Fs} {p q : Path} (h : ∀ i j, fs.inoOf p = some i → fs.inoOf q = some j → i ≠ j) :
    (view fs).A p q = false := by
  show ((fs.inoOf p).isSome && fs.inoOf p == fs.inoOf q) = false
  cases hp : fs.inoOf p with
  | none => rfl
  | some i =>
    cases hq : fs.inoOf q with
    | none => simp
    | some j => simpa using h i j hp hq

theorem comp_of_secComp {fs : Fs} {a b : Sec} (h : SecComp fs a b) : Comp (view fs) a b :=
  ⟨h.ra, h.rb, h.same, fun e => ⟨view_A_false (h.diff e),
    view_A_false (fun i j hi hj => (h.diff e j i hj hi).symm)⟩⟩

/-- back on trees: blocks of critical sections that are pairwise compatible from the well-formed tree `fs` may be
    permuted; the two results have the same observable part, and there is a result in the one order iff in the other -/
theorem crits_perm {fs : Fs} (hwf : FsWF fs) {ls ls' : List (List Sec)} (hp : List.Perm ls ls')
    (hpw : ls.Pairwise (fun A B => ∀ a ∈ A, ∀ b ∈ B, SecComp fs a b)) :
    (fs.crits ls.flatten).map view = (fs.crits ls'.flatten).map view := by
  rw [(crits_view hwf _).1, (crits_view hwf _).1]
  exact vrun_perm hp _ (vinv_view fs) (hpw.imp (fun h a ha b hb => comp_of_secComp (h a ha b hb)))

theorem obsEq_of_map_view {x y : Option Fs} (h : x.map view = y.map view) {r r' : Fs} (hx : x = some r) (hy : y = some r') :
    ObsEq r r' := by
  subst hx; subst hy
  exact (obsEq_iff_view _ _).2 (Option.some.inj h)

theorem isSome_of_map_view {x y : Option Fs} (h : x.map view = y.map view) : x.isSome = y.isSome := by
  have := congrArg Option.isSome h
  simpa using this

end TB.RunX

namespace TB

/-- the critical sections `FileWriter::write` runs for a piece: one per segment that is neither padding nor
    matched from its own export image, carrying that segment's slice of the verified buffer -/
def secsOf : List (WSeg × Option Path) → Bytes → Nat → List Sec
  | [], _, _ => []
  | (seg, src) :: rest, buf, start =>
    if seg.ent.isPad then secsOf rest buf (start + seg.len)
    else if src == some seg.ent.fullTarget then secsOf rest buf (start + seg.len)
    else ⟨seg.ent.fullTarget, seg.ent.fileLength, seg.off, (buf.drop start).take seg.len⟩
      :: secsOf rest buf (start + seg.len)

/-- the verified buffer reaches the end of every segment that is written (`result.bytes.get(start..end)` is `Some`) -/
def bufOk : List (WSeg × Option Path) → Bytes → Nat → Prop
  | [], _, _ => True
  | (seg, src) :: rest, buf, start =>
    (seg.ent.isPad = false → src ≠ some seg.ent.fullTarget → start + seg.len ≤ buf.length)
      ∧ bufOk rest buf (start + seg.len)

end TB
namespace TB.RunX
open TB

theorem op_nil (fs : Fs) (ops : List Op) (k : OpKind) (p : Path) (n : Fs → Fs × Bool) :
    (⟨fs, ops, []⟩ : St).op k p n = (⟨(n fs).1, ops ++ [⟨k, p, (n fs).2⟩], []⟩, (n fs).2) :=
  St.op_nofault k p n rfl

theorem writeOne_nil {fs : Fs} {ops : List Op} {seg : WSeg} {buf : Bytes} {start : Nat} {st5 : St}
    (w : WriteOne ⟨fs, ops, []⟩ seg buf start st5 none) :
    fs.crit seg.ent.fullTarget seg.ent.fileLength seg.off ((buf.drop start).take seg.len) = some st5.fs
      ∧ st5.faults = [] ∧ start + seg.len ≤ buf.length := by
  cases w with
  | done h1 h2 hl h3 h4 hlen h5 =>
    rw [op_nil] at h1
    obtain ⟨rfl, m1⟩ := Prod.mk.inj h1
    rw [op_nil] at h2
    obtain ⟨rfl, m2⟩ := Prod.mk.inj h2
    rw [op_nil] at h3
    obtain ⟨rfl, -⟩ := Prod.mk.inj h3
    rw [op_nil] at h4
    obtain ⟨rfl, -⟩ := Prod.mk.inj h4
    rw [op_nil] at h5
    obtain ⟨rfl, -⟩ := Prod.mk.inj h5
    refine ⟨?_, rfl, hlen⟩
    simp only at hl m2
    simp only [Fs.crit, m1, m2, hl, Bool.not_true, Bool.false_eq_true, if_false]

theorem writeOne_nil_conv (fs : Fs) (ops : List Op) (seg : WSeg) (buf : Bytes) (start : Nat) {fs' : Fs}
    (h : fs.crit seg.ent.fullTarget seg.ent.fileLength seg.off ((buf.drop start).take seg.len) = some fs')
    (hb : start + seg.len ≤ buf.length) :
    (writeOne ⟨fs, ops, []⟩ seg buf start).2 = none := by
  unfold writeOne
  simp only [op_nil]
  unfold Fs.crit at h
  simp only at h
  split at h
  · cases h
  rename_i h1
  rw [if_neg h1]
  split at h
  · cases h
  rename_i h2
  rw [if_neg h2]
  split at h
  · rename_i i hl
    rw [hl]
    simp only [Bool.not_true, Bool.false_eq_true, if_false]
    rw [if_neg (by omega)]
  · cases h

theorem secsOf_skip {seg : WSeg} {src : Option Path} (h : seg.ent.isPad = true ∨ src = some seg.ent.fullTarget)
    (rest : List (WSeg × Option Path)) (buf : Bytes) (start : Nat) :
    secsOf ((seg, src) :: rest) buf start = secsOf rest buf (start + seg.len)
      ∧ (bufOk ((seg, src) :: rest) buf start ↔ bufOk rest buf (start + seg.len)) := by
  rcases h with h | h <;> simp [secsOf, bufOk, h]

theorem secsOf_write {seg : WSeg} {src : Option Path} (hp : seg.ent.isPad = false)
    (hs : src ≠ some seg.ent.fullTarget) (rest : List (WSeg × Option Path)) (buf : Bytes) (start : Nat) :
    secsOf ((seg, src) :: rest) buf start
        = ⟨seg.ent.fullTarget, seg.ent.fileLength, seg.off, (buf.drop start).take seg.len⟩
          :: secsOf rest buf (start + seg.len)
      ∧ (bufOk ((seg, src) :: rest) buf start ↔ start + seg.len ≤ buf.length ∧ bufOk rest buf (start + seg.len)) := by
  simp [secsOf, bufOk, hp, hs]

theorem writeSegs_crits (ps : List (WSeg × Option Path)) (st st' : St) (buf : Bytes) (start : Nat) :
    st.faults = [] → writeSegs st ps buf start = (st', .found) →
    st.fs.crits (secsOf ps buf start) = some st'.fs ∧ st'.faults = [] ∧ bufOk ps buf start := by
  induction st, ps, start using writeSegs_induct buf generalizing st' with
  | nil => intro hf h; cases h; exact ⟨rfl, hf, trivial⟩
  | skip _ _ _ rest _ hsk ih =>
    intro hf h
    rw [(secsOf_skip hsk rest buf _).1, (secsOf_skip hsk rest buf _).2]
    exact ih st' hf h
  | fail => intro _ h; cases h
  | step st _ _ rest _ st1 hp hs w ih =>
    intro hf h
    obtain ⟨fs, ops, faults⟩ := st
    cases hf
    obtain ⟨e1, e2, hlen⟩ := writeOne_nil w
    obtain ⟨a, b, c⟩ := ih st' e2 h
    rw [(secsOf_write hp hs rest buf _).1, (secsOf_write hp hs rest buf _).2]
    simp only [Fs.crits, e1, Option.bind_some]
    exact ⟨a, b, hlen, c⟩

theorem writeSegs_found_of_crits (ps : List (WSeg × Option Path)) (st : St) (fs' : Fs) (buf : Bytes) (start : Nat) :
    st.faults = [] → st.fs.crits (secsOf ps buf start) = some fs' → bufOk ps buf start →
    (writeSegs st ps buf start).2 = .found := by
  induction st, ps, start using writeSegs_induct buf generalizing fs' with
  | nil => intro _ _ _; rfl
  | skip _ _ _ rest _ hsk ih =>
    intro hf h hb
    rw [(secsOf_skip hsk rest buf _).1] at h
    exact ih fs' hf h ((secsOf_skip hsk rest buf _).2.1 hb)
  | fail st seg _ rest start _ hp hs w =>
    intro hf h hb
    obtain ⟨fs, ops, faults⟩ := st
    cases hf
    rw [(secsOf_write hp hs rest buf _).1] at h
    obtain ⟨hlen, _⟩ := (secsOf_write hp hs rest buf _).2.1 hb
    simp only [Fs.crits] at h
    cases hc : fs.crit seg.ent.fullTarget seg.ent.fileLength seg.off ((buf.drop start).take seg.len) with
    | none => rw [hc] at h; cases h
    | some fs1 =>
      have := writeOne_nil_conv fs ops seg buf start hc hlen
      rw [w.eq] at this
      cases this
  | step st seg _ rest start st1 hp hs w ih =>
    intro hf h hb
    obtain ⟨fs, ops, faults⟩ := st
    cases hf
    obtain ⟨e1, e2, _⟩ := writeOne_nil w
    rw [(secsOf_write hp hs rest buf _).1] at h
    simp only [Fs.crits, e1, Option.bind_some] at h
    exact ih fs' e2 h ((secsOf_write hp hs rest buf _).2.1 hb).2

theorem obsEq_look {fs fs' : Fs} (h : ObsEq fs fs') (p : Path) :
    (∃ i j, fs.look p = .file i ∧ fs'.look p = .file j ∧ fs.content i = fs'.content j) ∨
    ((∀ i, fs.look p ≠ .file i) ∧ fs'.look p = fs.look p) := by
  obtain ⟨h1, h2, h3, _⟩ := h
  have hany : (Fs.properPrefixes p).any (fun q => (fs'.inoOf q).isSome)
      = (Fs.properPrefixes p).any (fun q => (fs.inoOf q).isSome) := by
    congr 1; funext q; exact (h2 q).symm
  rw [RunF.look_eq fs p, RunF.look_eq fs' p, hany, ← h1]
  split
  · exact Or.inr ⟨nofun, rfl⟩
  · split
    · exact Or.inr ⟨nofun, rfl⟩
    · have hs := h2 p
      cases hi : fs.inoOf p <;> cases hj : fs'.inoOf p <;> rw [hi, hj] at hs
      · exact Or.inr ⟨nofun, rfl⟩
      · cases hs
      · cases hs
      · exact Or.inl ⟨_, _, rfl, rfl, h3 p _ _ hi hj⟩

theorem crits_pair (fs : Fs) (a b : Sec) :
    fs.crits [a, b] = (fs.crit a.t a.L a.off a.d).bind (fun f => f.crit b.t b.L b.off b.d) := by
  simp only [Fs.crits]
  cases fs.crit a.t a.L a.off a.d with
  | none => rfl
  | some f =>
    simp only [Option.bind_some]
    cases f.crit b.t b.L b.off b.d <;> rfl

theorem crit_pair_isSome {fs : Fs} (hwf : FsWF fs) (a b : Sec) :
    ((fs.crit a.t a.L a.off a.d).bind (fun f => f.crit b.t b.L b.off b.d)).isSome = true ↔
      CritOk fs a.t ∧ CritOk fs b.t ∧ a.t ∉ mk b.t ∧ b.t ∉ mk a.t := by
  have e : (vrun (view fs) [a, b]).isSome = (vok (view fs) a && vok (vstep (view fs) a) b) := by
    simp only [vrun, vcrit_eq]
    cases vok (view fs) a
    · rfl
    · simp only [if_true, Option.bind_some]
      cases vok (vstep (view fs) a) b <;> rfl
  rw [← crits_pair, ← Option.isSome_map (f := view), (crits_view hwf [a, b]).1, e, vok_step (vinv_view fs)]
  simp only [Bool.and_eq_true, vok_view, Bool.not_eq_true', List.contains_eq_mem, decide_eq_false_iff_not, and_assoc]

theorem mem_mk_of_isProperPrefix {t1 t2 : Path} (h : Path.isProperPrefixOf t1 t2) (hne : t1 ≠ []) : t1 ∈ mk t2 := by
  obtain ⟨rest, hr, e⟩ := h
  apply mem_mk_of_properPrefix
  rw [RunF.mem_properPrefixes]
  refine ⟨t1.length, ?_, ?_, ?_⟩
  · cases t1 with
    | nil => exact absurd rfl hne
    | cons _ _ => simp
  · rw [e, List.length_append]
    have : 0 < rest.length := List.length_pos_iff.2 hr
    omega
  · rw [e, List.take_left']
    rfl

theorem critOk_ne_nil {fs : Fs} {t : Path} (h : CritOk fs t) : t ≠ [] := by
  intro e
  subst e
  have := h.2
  simp [Fs.isDir] at this

theorem mem_secsOf (ps : List (WSeg × Option Path)) : ∀ (buf : Bytes) (start : Nat) (a : Sec), a ∈ secsOf ps buf start →
    ∃ x ∈ ps, x.1.ent.isPad = false ∧ a.t = x.1.ent.fullTarget ∧ a.L = x.1.ent.fileLength ∧ a.off = x.1.off
      ∧ a.d.length ≤ x.1.len := by
  induction ps with
  | nil => intro buf start a h; cases h
  | cons x rest ih =>
    obtain ⟨seg, src⟩ := x
    intro buf start a h
    simp only [secsOf] at h
    split at h
    · obtain ⟨y, hy, r⟩ := ih _ _ _ h
      exact ⟨y, List.mem_cons_of_mem _ hy, r⟩
    · rename_i hp
      split at h
      · obtain ⟨y, hy, r⟩ := ih _ _ _ h
        exact ⟨y, List.mem_cons_of_mem _ hy, r⟩
      · rcases List.mem_cons.1 h with h | h
        · subst h
          refine ⟨(seg, src), List.mem_cons_self, by simpa using hp, rfl, rfl, rfl, ?_⟩
          simp only [List.length_take]
          omega
        · obtain ⟨y, hy, r⟩ := ih _ _ _ h
          exact ⟨y, List.mem_cons_of_mem _ hy, r⟩

end TB.RunX
namespace TB

/-- two pieces whose writes may be exchanged, from tree `fs`: every segment lies inside its file (`SegsInRange`);
    a non-padding segment of the one and a non-padding segment of the other that have the same export image occupy
    disjoint ranges of it (the cross-item clause of `RangesDisjoint`) and declare the same file length (`hsame` of
    `C01_bytes` / `C04_run_preserved`); with different images they do not share an inode in `fs` (no hard link
    between export images, a consequence of `NoAlias`). Nothing is asked about two segments of the same piece. -/
structure PiecesCompat (fs : Fs) (w1 w2 : Work) : Prop where
  r1 : SegsInRange w1
  r2 : SegsInRange w2
  cross : ∀ s ∈ w1.segs, ∀ t ∈ w2.segs, s.ent.isPad = false → t.ent.isPad = false →
    s.ent.fullTarget = t.ent.fullTarget → s.off + s.len ≤ t.off ∨ t.off + t.len ≤ s.off
  same : ∀ s ∈ w1.segs, ∀ t ∈ w2.segs, s.ent.isPad = false → t.ent.isPad = false →
    s.ent.fullTarget = t.ent.fullTarget → s.ent.fileLength = t.ent.fileLength
  noalias : ∀ s ∈ w1.segs, ∀ t ∈ w2.segs, s.ent.isPad = false → t.ent.isPad = false →
    s.ent.fullTarget ≠ t.ent.fullTarget →
    ∀ i j, fs.inoOf s.ent.fullTarget = some i → fs.inoOf t.ent.fullTarget = some j → i ≠ j

/-- a verified piece waiting to be written: the work item, the sources of its segments (a segment matched from its
    own export image is not written) and the verified buffer -/
abbrev WItem := Work × List (Option Path) × Bytes

/-- the argument list `solvePiece` hands to `writeSegs` -/
def WItem.pairs (it : WItem) : List (WSeg × Option Path) := it.1.segs.zip it.2.1

/-- the critical sections of one item -/
def WItem.secs (it : WItem) : List Sec := secsOf it.pairs it.2.2 0

/-- write the items one after the other; the flag says whether every call answered `found` -/
def writeAll (st : St) : List WItem → St × Bool
  | [] => (st, true)
  | it :: rest =>
    match writeSegs st it.pairs it.2.2 0 with
    | (st1, .found) => writeAll st1 rest
    | (st1, _) => (st1, false)

theorem PiecesCompat.symm {fs : Fs} {w1 w2 : Work} (h : PiecesCompat fs w1 w2) : PiecesCompat fs w2 w1 :=
  ⟨h.r2, h.r1, fun s hs t ht sp tp e => (h.cross t ht s hs tp sp e.symm).symm,
    fun s hs t ht sp tp e => (h.same t ht s hs tp sp e.symm).symm,
    fun s hs t ht sp tp e i j hi hj => (h.noalias t ht s hs tp sp (Ne.symm e) j i hj hi).symm⟩

end TB
namespace TB.RunX
open TB

theorem secComp_of_pieces {fs : Fs} {w1 w2 : Work} (h : PiecesCompat fs w1 w2)
    {ps1 ps2 : List (WSeg × Option Path)} (h1 : ∀ x ∈ ps1, x.1 ∈ w1.segs) (h2 : ∀ x ∈ ps2, x.1 ∈ w2.segs)
    (b1 b2 : Bytes) (n1 n2 : Nat) :
    ∀ a ∈ secsOf ps1 b1 n1, ∀ b ∈ secsOf ps2 b2 n2, SecComp fs a b := by
  intro a ha b hb
  obtain ⟨x, hx, xp, xt, xL, xo, xd⟩ := mem_secsOf _ _ _ _ ha
  obtain ⟨y, hy, yp, yt, yL, yo, yd⟩ := mem_secsOf _ _ _ _ hb
  have hx' := h1 x hx
  have hy' := h2 y hy
  have ex : a.off + a.d.length ≤ x.1.off + x.1.len := by rw [xo]; exact Nat.add_le_add_left xd _
  have ey : b.off + b.d.length ≤ y.1.off + y.1.len := by rw [yo]; exact Nat.add_le_add_left yd _
  refine ⟨by rw [xL]; exact Nat.le_trans ex (h.r1 _ hx'), by rw [yL]; exact Nat.le_trans ey (h.r2 _ hy'), ?_, ?_⟩
  · intro e
    rw [xt, yt] at e
    rw [xL, yL]
    refine ⟨h.same _ hx' _ hy' xp yp e, ?_⟩
    rw [xo] at ex ⊢
    rw [yo] at ey ⊢
    exact (h.cross _ hx' _ hy' xp yp e).imp (Nat.le_trans ex) (Nat.le_trans ey)
  · intro e
    rw [xt, yt] at e ⊢
    exact h.noalias _ hx' _ hy' xp yp e

theorem mem_pairs {it : WItem} {x : WSeg × Option Path} (h : x ∈ it.pairs) : x.1 ∈ it.1.segs :=
  (List.of_mem_zip h).1

theorem secComp_of_items {fs : Fs} {a b : WItem} (h : PiecesCompat fs a.1 b.1) :
    ∀ x ∈ a.secs, ∀ y ∈ b.secs, SecComp fs x y :=
  secComp_of_pieces h (fun _ => mem_pairs) (fun _ => mem_pairs) _ _ _ _

theorem writeAll_crits (items : List WItem) : ∀ (st st' : St), st.faults = [] → writeAll st items = (st', true) →
    st.fs.crits (items.map WItem.secs).flatten = some st'.fs ∧ ∀ it ∈ items, bufOk it.pairs it.2.2 0 := by
  induction items with
  | nil =>
    intro st st' _ h
    simp only [writeAll, Prod.mk.injEq, and_true] at h
    subst h
    exact ⟨rfl, fun _ h => by cases h⟩
  | cons it rest ih =>
    intro st st' hf h
    simp only [writeAll] at h
    split at h
    · rename_i st1 h1
      obtain ⟨a, b, c⟩ := writeSegs_crits _ _ _ _ _ hf h1
      obtain ⟨a', c'⟩ := ih _ _ b h
      rw [List.map_cons, List.flatten_cons, crits_append]
      refine ⟨?_, ?_⟩
      · show (st.fs.crits (secsOf it.pairs it.2.2 0)).bind _ = _
        rw [a]; exact a'
      · intro x hx
        rcases List.mem_cons.1 hx with rfl | hx
        · exact c
        · exact c' x hx
    · simp only [Prod.mk.injEq, Bool.false_eq_true, and_false] at h

theorem writeAll_of_crits (items : List WItem) : ∀ (st : St) (fs' : Fs), st.faults = [] →
    st.fs.crits (items.map WItem.secs).flatten = some fs' → (∀ it ∈ items, bufOk it.pairs it.2.2 0) →
    (writeAll st items).2 = true := by
  induction items with
  | nil => intro st fs' _ _ _; rfl
  | cons it rest ih =>
    intro st fs' hf h hb
    rw [List.map_cons, List.flatten_cons, crits_append] at h
    cases h1 : st.fs.crits it.secs with
    | none => rw [h1] at h; cases h
    | some fs1 =>
      rw [h1] at h
      simp only [Option.bind_some] at h
      have hfound := writeSegs_found_of_crits _ _ _ _ _ hf h1 (hb it List.mem_cons_self)
      simp only [writeAll]
      split
      · rename_i st1 h2
        obtain ⟨a, b, _⟩ := writeSegs_crits _ _ _ _ _ hf h2
        have : fs1 = st1.fs := by
          have a' : st.fs.crits it.secs = some st1.fs := a
          rw [h1] at a'; exact Option.some.inj a'
        subst this
        exact ih _ _ b h (fun x hx => hb x (List.mem_cons_of_mem _ hx))
      · rename_i st1 r hne h2
        rw [h2] at hfound
        exact absurd hfound (fun e => hne (by simpa using e))

end TB.RunX
