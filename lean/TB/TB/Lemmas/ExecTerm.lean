/-
  Termination of the executor (C05): the order `mlt` is well-founded, `measure` decreases along every step from
  a reachable state (`measure_dec` on `fullInv_reach`), hence the step relation on reachable states is
  well-founded.
-/
import TB.Lemmas.ExecTermDec
namespace TB.Exec.Term
/-- `mlt` is the lexicographic product of four copies of `<` on `Nat` -/
theorem mlt_wf : WellFounded mlt := by
  refine Subrelation.wf ?_
    (Prod.lex Nat.lt_wfRel (Prod.lex Nat.lt_wfRel (Prod.lex Nat.lt_wfRel Nat.lt_wfRel))).wf
  intro (a1, a2, a3, a4) (b1, b2, b3, b4) h
  rcases h with h | ⟨rfl, h | ⟨rfl, h | ⟨rfl, h⟩⟩⟩
  · exact Prod.Lex.left _ _ h
  · exact Prod.Lex.right _ (Prod.Lex.left _ _ h)
  · exact Prod.Lex.right _ (Prod.Lex.right _ (Prod.Lex.left _ _ h))
  · exact Prod.Lex.right _ (Prod.Lex.right _ (Prod.Lex.right _ h))

theorem measure_decreases_reach (bal : Bal) (hb : BalSpec bal) (qs : List (List Nat)) (s s' : ExSt) (i : Nat)
    (hr : Reach bal (init qs) s) (hs : step bal s i = some s') : mlt (measure s') (measure s) :=
  measure_dec hb (fullInv_reach hb hr) hs

theorem terminates_of_decreases (bal : Bal) (qs : List (List Nat))
    (hdec : ∀ s s' i, Reach bal (init qs) s → step bal s i = some s' → mlt (measure s') (measure s)) :
    WellFounded (fun s' s => Reach bal (init qs) s ∧ ∃ i, step bal s i = some s') := by
  refine Subrelation.wf ?_ (InvImage.wf measure mlt_wf)
  intro s' s h
  obtain ⟨hr, i, hs⟩ := h
  exact hdec s s' i hr hs

end TB.Exec.Term