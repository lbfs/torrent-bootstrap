/-
  The metadata table (finder.rs part of TB.Model.Run) and export image paths.
-/
import TB.Lemmas.Run
import TB.Props.C07
namespace TB

theorem entriesOfFiles_target (exportDir : Path) (t : Torrent) (all : List FileRec) :
    ∀ (fs' pre : List FileRec) (id : Nat), all = pre ++ fs' →
      ∀ e ∈ entriesOfFiles exportDir t fs' pre.length id,
        e.infoHash = t.infoHash ∧ ∃ f, all[e.fileIndex]? = some f ∧ e.fileLength = f.length
          ∧ e.isPad = isPaddingPath f.path
          ∧ e.fullTarget = exportDir ++ [hex t.infoHash, sData, t.info.name] ++ f.path := by
  intro fs'
  induction fs' with
  | nil => intro pre id _ e he; simp [entriesOfFiles] at he
  | cons f fs ih =>
    intro pre id hall e he
    simp only [entriesOfFiles, List.mem_cons] at he
    rcases he with rfl | he
    · refine ⟨rfl, f, ?_, rfl, rfl, ?_⟩
      · simp [hall]
      · simp [targetMulti, exportRoot]
    · have := ih (pre ++ [f]) (id + 1) (by simp [hall])
      simp only [List.length_append, List.length_cons, List.length_nil] at this
      exact this e he

theorem buildTable_target (exportDir : Path) (ts : List Torrent) (id0 : Nat) :
    ∀ e ∈ buildTable exportDir ts id0, ∃ t ∈ ts, IsTargetOf exportDir t e := by
  induction ts generalizing id0 with
  | nil => intro e he; simp [buildTable] at he
  | cons t ts ih =>
    intro e he
    unfold buildTable at he
    split at he
    · rename_i fs hfs
      simp only [List.mem_append] at he
      rcases he with he | he
      · obtain ⟨h1, f, h2, h3, h4, h5⟩ := entriesOfFiles_target exportDir t fs fs [] id0 rfl e he
        exact ⟨t, List.mem_cons_self, h1, Or.inr ⟨fs, f, hfs, h2, h3, h4, h5⟩⟩
      · obtain ⟨t', ht', h⟩ := ih _ e he
        exact ⟨t', List.mem_cons_of_mem _ ht', h⟩
    · rename_i l hfs hl
      simp only [List.mem_cons] at he
      rcases he with rfl | he
      · refine ⟨t, List.mem_cons_self, rfl, Or.inl ⟨l, hfs, hl, rfl, rfl, rfl, ?_⟩⟩
        simp [targetSingle, exportRoot]
      · obtain ⟨t', ht', h⟩ := ih _ e he
        exact ⟨t', List.mem_cons_of_mem _ ht', h⟩
    · obtain ⟨t', ht', h⟩ := ih _ e he
      exact ⟨t', List.mem_cons_of_mem _ ht', h⟩

theorem IsTargetOf.shape {exportDir : Path} {t : Torrent} {e : TEntry} (h : IsTargetOf exportDir t e) :
    ∃ tail, e.fullTarget = exportDir ++ (hex t.infoHash :: sData :: t.info.name :: tail) := by
  obtain ⟨_, ⟨l, _, _, _, _, _, h⟩ | ⟨fs, f, _, _, _, _, h⟩⟩ := h
  · exact ⟨[], by simp [h]⟩
  · exact ⟨f.path, by simp [h]⟩

theorem IsTargetOf.properPrefix {exportDir : Path} {t : Torrent} {e : TEntry} (h : IsTargetOf exportDir t e) :
    Path.isProperPrefixOf (exportDir ++ [hex t.infoHash, sData]) e.fullTarget := by
  obtain ⟨tail, h⟩ := h.shape
  exact ⟨t.info.name :: tail, by simp, by simp [h]⟩

theorem IsTargetOf.prefix_dropLast {exportDir : Path} {t : Torrent} {e : TEntry} (h : IsTargetOf exportDir t e) :
    Path.isPrefixOf (exportDir ++ [hex t.infoHash, sData]) e.fullTarget.dropLast := by
  obtain ⟨tail, h⟩ := h.shape
  refine ⟨(t.info.name :: tail).dropLast, ?_⟩
  rw [h, List.dropLast_append_of_ne_nil (by simp)]
  simp [List.dropLast]

theorem IsTargetOf.disjoint {exportDir : Path} {t₁ t₂ : Torrent} {e₁ e₂ : TEntry}
    (h₁ : IsTargetOf exportDir t₁ e₁) (h₂ : IsTargetOf exportDir t₂ e₂) (hne : t₁.infoHash ≠ t₂.infoHash) :
    ¬ Path.isPrefixOf e₁.fullTarget e₂.fullTarget := by
  obtain ⟨tl₁, s₁⟩ := h₁.shape
  obtain ⟨tl₂, s₂⟩ := h₂.shape
  rintro ⟨rest, hr⟩
  rw [s₁, s₂, List.append_assoc] at hr
  have := List.append_cancel_left hr
  simp only [List.cons_append, List.cons.injEq] at this
  exact hne (C07_hex_injective _ _ this.1).symm

theorem entriesOfFiles_searches (exportDir : Path) (t : Torrent) (fs : List FileRec) (idx id : Nat) :
    ∀ e ∈ entriesOfFiles exportDir t fs idx id, e.searches = none := by
  induction fs generalizing idx id with
  | nil => intro e he; simp [entriesOfFiles] at he
  | cons f fs ih =>
    intro e he
    rw [entriesOfFiles] at he
    rcases List.mem_cons.1 he with rfl | he
    · rfl
    · exact ih _ _ e he

theorem buildTable_searches (exportDir : Path) (ts : List Torrent) (id : Nat) :
    ∀ e ∈ buildTable exportDir ts id, e.searches = none := by
  induction ts generalizing id with
  | nil => intro e he; simp [buildTable] at he
  | cons t ts ih =>
    intro e he
    rw [buildTable] at he
    split at he
    · simp only at he
      rcases List.mem_append.1 he with he | he
      · exact entriesOfFiles_searches _ _ _ _ _ e he
      · exact ih _ e he
    · rcases List.mem_cons.1 he with rfl | he
      · rfl
      · exact ih _ e he
    · exact ih _ e he


end TB
