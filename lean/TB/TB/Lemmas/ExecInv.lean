/-
  The invariant `FullInv` holds initially and is preserved by every step
  (`inv_step`: by cases on the program counter, each branch of `step` an instance of `FullInv.step`).
-/
import TB.Lemmas.ExecTermInv
import TB.Lemmas.ExecBal
namespace TB.Exec

variable {bal : Bal} {qs0 : List (List Nat)} {s s' : ExSt} {i : Nat}

theorem fullInv_init (qs : List (List Nat)) : FullInv qs (init qs) := by
  have htop : ∀ i pc, (init qs).pcs[i]? = some pc → pc = Pc.top := fun i pc h =>
    List.eq_of_mem_replicate (show pc ∈ List.replicate qs.length Pc.top from List.mem_of_getElem? h)
  refine ⟨⟨List.length_replicate.symm, List.length_replicate.trans List.length_replicate.symm,
    Nat.le_of_eq List.length_replicate.symm, ?_, nofun, ?_, ?_, ?_⟩, ?_⟩
  · have : inHand (init qs) = [] := by
      rw [inHand_eq, List.flatMap_eq_nil_iff]
      intro pc hpc
      rw [List.eq_of_mem_replicate hpc]; rfl
    rw [this]
    exact .refl _
  · intro i pc hpc
    rw [htop i pc hpc]
    exact WInv.of_not_holdsS rfl nofun
  · intro j k hj
    cases List.eq_of_mem_replicate (show some k ∈ List.replicate qs.length none from List.mem_of_getElem? hj)
  · intro j hj
    exact congrArg (·.getD []) (List.getElem?_eq_none hj)
  · intro i pc hpc
    rw [htop i pc hpc]
    trivial

theorem inv_top (h : FullInv qs0 s) (hpc : s.pcs[i]? = some .top) (hs : step bal s i = some s') :
    FullInv qs0 s' := by
  simp only [step, hpc] at hs
  split at hs <;> cases hs
  · have hqi : s.queues[i]? = some (s.queues[i]?.getD []) := by
      rw [List.getElem?_eq_getElem (by rw [h.safe.lenQ]; exact lt_of_getElem?_eq_some hpc)]; rfl
    refine h.step hpc rfl List.length_set List.length_set (Nat.le_refl _) (.inl ⟨rfl, rfl⟩)
      (fun _ => ⟨rfl, fun k hk => List.getElem?_set_ne (Ne.symm hk), empty_set_dropLast s.queues i⟩)
      ?_ (fun j hj => empty_set_dropLast s.queues i j (h.safe.tail j hj))
      (lock_set h.safe hpc i (some i) (fun _ _ hm => hm.elim) (fun k hk => by cases hk; exact ⟨rfl, rfl⟩))
      (fun _ => WInv.of_not_holdsS rfl nofun) trivial
    rw [hand_popped]
    exact (flatten_set_dropLast s.queues i _ hqi).append_left _
  · exact h.step_lock hpc _ rfl rfl rfl (lock_none h.safe hpc nofun)
      (fun _ => .of_not_holdsS rfl nofun) trivial

theorem inv_collect {k : Nat} (h : FullInv qs0 s) (hpc : s.pcs[i]? = some (.collect k))
    (hs : step bal s i = some s') : FullInv qs0 s' := by
  simp only [step, hpc] at hs
  have hia : i < s.active := (h.safe.wrk i _ hpc).na rfl
  have hown := h.own i _ hpc
  split at hs
  · cases hs
    exact h.step_lock hpc _ rfl rfl rfl
      (fun j k hq => lock_keep h.safe hpc hq (fun hm => hm.elim (fun e => e ▸ hia)
        (fun hm => (mem_others.1 (List.mem_of_mem_take hm)).1)))
      (fun hs => ⟨hs, fun _ => hia, nofun, nofun⟩) hown
  · rename_i t ht
    split at hs <;> cases hs
    have hnext : ∀ j, j ∈ (others i s.active).take k ∨ j = t → j ∈ (others i s.active).take (k + 1) := by
      intro j hj
      rw [List.take_add_one, ht, List.mem_append, Option.toList_some, List.mem_singleton]
      exact hj
    exact h.step_lock hpc _ List.length_set rfl rfl
      (lock_set h.safe hpc t (some i) (fun j _ hm => hm.imp_right fun hm => hnext j (.inl hm))
        (fun k hk => by cases hk; exact ⟨rfl, .inr (hnext t (.inr rfl))⟩))
      (fun hs => ⟨hs, fun _ => hia, nofun, nofun⟩) hown

theorem inv_bal (hb : BalSpec bal) (h : FullInv qs0 s) (hpc : s.pcs[i]? = some .bal)
    (hs : step bal s i = some s') : FullInv qs0 s' := by
  simp only [step, hpc] at hs
  cases hs
  have hia : i < s.active := (h.own i _ hpc).1
  have hal : s.active ≤ s.queues.length := by rw [h.safe.lenQ]; exact h.safe.actLe
  obtain ⟨hlen, hdrop, _, _⟩ := hb s.active s.queues (by omega) hal
  have htail : ∀ j, s.active ≤ j → (bal s.active s.queues)[j]?.getD [] = [] := fun j hj => by
    rw [getElem?_of_drop_eq hdrop hj]
    exact h.safe.tail j hj
  refine h.step hpc rfl hlen rfl (Nat.le_refl _) (.inl ⟨rfl, rfl⟩) nofun
    ((bal_flatten_perm hb (by omega) hal).append_left _) htail
    (fun j k hq => lock_keep h.safe hpc hq (fun hm => ⟨Nat.zero_le _, hm⟩))
    (fun hs => ⟨hs, fun _ => hia, nofun, fun d hd j hj => ?_⟩) ?_
  · cases hd
    by_cases hja : j < s.active
    · exact emptyTail_spec _ _ (hlen ▸ hal) j hj hja
    · exact htail j (Nat.le_of_not_lt hja)
  · by_cases hk : i < s.active - emptyTail (bal s.active s.queues) s.active
    · exact Or.inl (bal_nonempty hb (by omega) hal hk)
    · exact Or.inr (Nat.le_of_not_lt hk)

theorem inv_step (hb : BalSpec bal) (h : FullInv qs0 s) (hs : step bal s i = some s') : FullInv qs0 s' := by
  cases hpc : s.pcs[i]? with
  | none => simp [step, hpc] at hs
  | some pc =>
    have hw := h.safe.wrk i pc hpc
    have hown := h.own i pc hpc
    cases pc with
    | top => exact inv_top h hpc hs
    | collect k => exact inv_collect h hpc hs
    | bal => exact inv_bal hb h hpc hs
    | done => simp [step, hpc] at hs
    | popped item =>
      simp only [step, hpc] at hs
      cases hs
      cases item <;>
        exact h.step_lock hpc _ List.length_set rfl rfl
          (lock_set h.safe hpc i none (fun j hj hm => absurd hm hj) nofun) (fun _ => .of_not_holdsS rfl nofun)
          trivial
    | solving x =>
      simp only [step, hpc] at hs
      cases hs
      exact h.step hpc rfl rfl rfl (Nat.le_refl _) (.inl ⟨rfl, rfl⟩) (frame_same rfl rfl)
        (.of_eq (List.append_assoc ..)) h.safe.tail (lock_none h.safe hpc nofun)
        (fun _ => .of_not_holdsS rfl nofun) trivial
    | wantState =>
      simp only [step, hpc] at hs
      split at hs <;> cases hs
      rename_i hn
      exact h.step hpc rfl rfl rfl (Nat.le_refl _)
        (.inr (.inl ⟨rfl, rfl, Option.isNone_iff_eq_none.1 hn, rfl⟩)) (frame_same rfl rfl) (.refl _) h.safe.tail
        (lock_none h.safe hpc nofun) (fun hs => ⟨hs, nofun, nofun, nofun⟩) trivial
    | haveState =>
      simp only [step, hpc] at hs
      split at hs <;> cases hs <;> rename_i hge
      · exact h.step_lock hpc _ rfl rfl rfl (lock_none h.safe hpc nofun)
          (fun hs => ⟨hs, nofun, fun _ => hge, nofun⟩) trivial
      · exact h.step_lock hpc _ rfl rfl rfl (lock_none h.safe hpc nofun)
          (fun hs => ⟨hs, fun _ => Nat.lt_of_not_le hge, nofun, nofun⟩) (Nat.lt_of_not_le hge)
    | exiting =>
      simp only [step, hpc] at hs
      cases hs
      exact h.step_dropS hpc rfl rfl rfl nofun hw.ex
    | wantLocal =>
      simp only [step, hpc] at hs
      split at hs <;> cases hs
      exact h.step_lock hpc _ List.length_set rfl rfl
        (lock_set h.safe hpc i (some i) (fun _ _ hm => hm.elim) (fun k hk => by cases hk; exact ⟨rfl, rfl⟩))
        (fun hs => ⟨hs, hw.na, nofun, nofun⟩) hown
    | haveLocal =>
      simp only [step, hpc] at hs
      split at hs <;> cases hs <;> rename_i hlen
      · exact h.step_lock hpc _ rfl rfl rfl (fun j k hq => lock_keep h.safe hpc hq id)
          (fun hs => ⟨hs, nofun, nofun, nofun⟩) (List.ne_nil_of_length_pos hlen)
      · exact h.step_lock hpc _ rfl rfl rfl (fun j k hq => lock_keep h.safe hpc hq Or.inl)
          (fun hs => ⟨hs, hw.na, nofun, nofun⟩)
          ⟨hown, List.eq_nil_of_length_eq_zero (Nat.eq_zero_of_not_pos hlen)⟩
    | cont1 =>
      simp only [step, hpc] at hs
      cases hs
      exact h.step_lock hpc _ List.length_set rfl rfl
        (lock_set h.safe hpc i none (fun j hj hm => absurd hm hj) nofun) (fun hs => ⟨hs, nofun, nofun, nofun⟩)
        hown
    | cont2 =>
      simp only [step, hpc] at hs
      cases hs
      exact h.step_dropS hpc rfl rfl rfl nofun nofun
    | release k d =>
      simp only [step, hpc] at hs
      split at hs <;> cases hs <;> rename_i hk
      · exact h.step_lock hpc _ List.length_set rfl rfl
          (lock_set h.safe hpc k none (fun j hj hm => ⟨Nat.lt_of_le_of_ne hm.1 (Ne.symm hj), hm.2⟩) nofun)
          (fun hs => ⟨hs, hw.na, nofun, hw.pd⟩) hown
      · exact h.step_lock hpc _ rfl rfl rfl (lock_none h.safe hpc fun j hm => hk (Nat.lt_of_le_of_lt hm.1 hm.2))
          (fun hs => ⟨hs, nofun, nofun, hw.pd⟩) hown
    | dec d =>
      simp only [step, hpc] at hs
      cases hs
      exact h.step hpc rfl rfl rfl (Nat.sub_le _ _) (.inl ⟨rfl, rfl⟩) nofun (.refl _) (hw.pd d rfl)
        (lock_none h.safe hpc nofun) (fun hs => ⟨hs, nofun, nofun, nofun⟩) hown
    | unlockState =>
      simp only [step, hpc] at hs
      cases hs
      exact h.step_dropS hpc rfl rfl rfl nofun nofun

theorem fullInv_reach (hb : BalSpec bal) {qs : List (List Nat)} (h : Reach bal (init qs) s) : FullInv qs s := by
  induction h with
  | refl => exact fullInv_init qs
  | step i _ hs ih => exact inv_step hb ih hs

theorem inv_reach (hb : BalSpec bal) {qs : List (List Nat)} (h : Reach bal (init qs) s) : Inv qs s :=
  (fullInv_reach hb h).safe

end TB.Exec
