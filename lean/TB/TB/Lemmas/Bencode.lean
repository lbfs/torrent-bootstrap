/-
  Helper lemmas for C08 (TB/Props/C08.lean). Split for build time:
    TB.Lemmas.BencodeBase     — digits; `decodeInt` / `decodeStr` sound, complete, panic-free
    TB.Lemmas.BencodeSound    — soundness of `decodeAny` and the list/dict loops (fuel induction); no panics
    TB.Lemmas.BencodeComplete — completeness of the same on encodings of canonical values (fuel `|encode v|`)
-/
import TB.Model.Bencode
import TB.Spec.BencodeSpec
import TB.Lemmas.BencodeBase
import TB.Lemmas.BencodeSound
import TB.Lemmas.BencodeComplete
