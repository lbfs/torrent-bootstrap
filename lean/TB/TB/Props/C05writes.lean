/-
  C05 (writes) — concurrent writes into the same export file never damage one another.

  In the tool every worker, after verifying a piece, runs `FileWriter::write`: for every non-padding segment of the
  piece, UNDER THE PER-FILE LOCK, `create_dir_all(parent)`, open(write, create, no truncate), `set_len(declared
  length)`, seek, `write_all(segment bytes)`. The executor model (TB.Model.Exec) treats a whole piece evaluation as
  one atomic step. This file goes one level down: the unit is the critical section (`Fs.crit`, the operations of
  `writeSegs` for one segment), and the theorems say that critical sections of different pieces COMMUTE, so any
  interleaving of the workers at the granularity of critical sections leaves the same tree.

  "The same tree" is observational equivalence `ObsEq`, not equality of `Fs`: the inode NUMBER of a file created
  by a critical section depends on how many files were created before it, so the two orders give different
  numbers to freshly created files (and different orders inside the `files` / `data` lists).

    X0  `ObsEq` is an equivalence; `look`, reads through a path and `VerE` respect it.
    X1  algebra of `set_len` / positional writes on one inode and on two inodes.
    X2  `C05_sections_commute` (two critical sections), the success criterion, the duplicate-path counterexample.
    X3  `C05_pieces_commute` (the writes of two pieces).
    X4  `C05_any_write_order` (any permutation of a list of pieces).

  Definitions used below and made in TB.Lemmas.RunX (namespace TB): `Sec`, `Fs.crit`, `Fs.crits`, `ObsEq`,
  `SecComp`, `secsOf`, `bufOk`, `PiecesCompat`, `WItem`, `writeAll`.
-/
import TB.Lemmas.RunX
import TB.Props.C04h
namespace TB
open TB.RunX

theorem ObsEq.refl (fs : Fs) : ObsEq fs fs := (obsEq_iff_view fs fs).2 rfl

theorem ObsEq.symm {fs fs' : Fs} (h : ObsEq fs fs') : ObsEq fs' fs :=
  (obsEq_iff_view _ _).2 ((obsEq_iff_view _ _).1 h).symm

theorem ObsEq.trans {a b c : Fs} (h1 : ObsEq a b) (h2 : ObsEq b c) : ObsEq a c :=
  (obsEq_iff_view _ _).2 (((obsEq_iff_view _ _).1 h1).trans ((obsEq_iff_view _ _).1 h2))

/-- `ObsEq` (same directories, same bound names, same bytes behind every name, same pairs of names sharing a file)
    is an equivalence relation -/
theorem C05_obsEq_equivalence : Equivalence ObsEq :=
  ⟨ObsEq.refl, ObsEq.symm, ObsEq.trans⟩

/-- the fourth clause of `ObsEq` is stated for bound names; for all names it follows from the second -/
theorem ObsEq.alias_all {fs fs' : Fs} (h : ObsEq fs fs') (p q : Path) :
    fs.inoOf p = fs.inoOf q ↔ fs'.inoOf p = fs'.inoOf q := by
  obtain ⟨_, h2, _, h4⟩ := h
  cases ep : fs.inoOf p with
  | some i =>
    cases eq : fs.inoOf q with
    | some j => rw [← ep, ← eq]; exact h4 p q (by rw [ep]; rfl) (by rw [eq]; rfl)
    | none =>
      -- bound against unbound, in both trees
      have hp := h2 p
      have hq := h2 q
      rw [ep] at hp; rw [eq] at hq
      constructor
      · intro e; cases e
      · intro e; rw [e, ← hq] at hp; cases hp
  | none =>
    have hp := h2 p
    have hq := h2 q
    rw [ep] at hp
    have ep' : fs'.inoOf p = none := Option.isSome_eq_false_iff.1 hp.symm |> Option.isNone_iff_eq_none.1
    rw [ep']
    constructor
    · intro e; rw [← e] at hq; exact (Option.isNone_iff_eq_none.1 (Option.isSome_eq_false_iff.1 hq.symm)).symm
    · intro e; rw [← e] at hq; exact (Option.isNone_iff_eq_none.1 (Option.isSome_eq_false_iff.1 hq)).symm

/-- `look` respects `ObsEq`: a regular file is a regular file with the same bytes (the inode number may differ) -/
theorem C05_obsEq_look_file {fs fs' : Fs} (h : ObsEq fs fs') {p : Path} {i : Nat} (hl : fs.look p = .file i) :
    ∃ j, fs'.look p = .file j ∧ fs.content i = fs'.content j := by
  rcases obsEq_look h p with ⟨i', j, h1, h2, h3⟩ | ⟨h1, _⟩
  · rw [hl] at h1; cases h1; exact ⟨j, h2, h3⟩
  · exact absurd hl (h1 i)

/-- `look` respects `ObsEq`: every other answer (ENOENT, ENOTDIR, directory) is the same -/
theorem C05_obsEq_look_other {fs fs' : Fs} (h : ObsEq fs fs') {p : Path} (hl : ∀ i, fs.look p ≠ .file i) :
    fs'.look p = fs.look p := by
  rcases obsEq_look h p with ⟨i, _, h1, _⟩ | ⟨_, h2⟩
  · exact absurd h1 (hl i)
  · exact h2

/-- a read through a path respects `ObsEq` -/
theorem C05_obsEq_readAt {fs fs' : Fs} (h : ObsEq fs fs') {p : Path} {i j : Nat}
    (hl : fs.look p = .file i) (hl' : fs'.look p = .file j) (off len : Nat) :
    fs.readAt i off len = fs'.readAt j off len := by
  obtain ⟨j', e, hc⟩ := C05_obsEq_look_file h hl
  rw [hl'] at e
  cases e
  simp only [Fs.readAt, hc]

/-- the bytes of a segment at its export image respect `ObsEq` -/
theorem C05_obsEq_segBytesIn {fs fs' : Fs} (h : ObsEq fs fs') (s : WSeg) : segBytesIn fs s = segBytesIn fs' s := by
  unfold segBytesIn
  split
  · rfl
  · rcases obsEq_look h s.ent.fullTarget with ⟨i, j, h1, h2, hc⟩ | ⟨h1, h2⟩
    · rw [h1, h2]; simp only [Fs.readAt, hc]
    · rw [h2]
      cases hl : fs.look s.ent.fullTarget with
      | file i => exact absurd hl (h1 i)
      | _ => rfl

/-- `VerE` respects `ObsEq`: a piece verifies in one tree iff it verifies in the other -/
theorem C05_obsEq_verE (H : Bytes → Bytes) {fs fs' : Fs} (h : ObsEq fs fs') (w : Work) :
    VerE H fs w ↔ VerE H fs' w := by
  have e : segBytesIn fs = segBytesIn fs' := funext (C05_obsEq_segBytesIn h)
  unfold VerE
  rw [e]

/-! ### X1 — algebra of the byte operations

  Everything is stated content-wise (`content k` for every inode `k`): the `data` list of the two sides may list
  the inodes in a different order. -/

/-- positional writes to DISJOINT ranges of one inode commute. No in-range hypothesis is needed: a write past the
    end zero-fills the gap, and the zero-fill of the one is overwritten by, or agrees with, the other. -/
theorem C05_writeAt_commute (fs : Fs) (i o1 o2 : Nat) (d1 d2 : Bytes)
    (h : o1 + d1.length ≤ o2 ∨ o2 + d2.length ≤ o1) (k : Nat) :
    ((fs.writeAt i o1 d1).writeAt i o2 d2).content k = ((fs.writeAt i o2 d2).writeAt i o1 d1).content k := by
  simp only [writeAt_eq, content_setData]
  split
  · simp only [if_true]; exact wr_comm o2 o1 d2 d1 _ h.symm
  · rfl

/-- overlapping writes do not commute (the later one wins) -/
example : wr 0 [1] (wr 0 [2] []) ≠ wr 0 [2] (wr 0 [1] []) := by decide

/-- `set_len n` is idempotent -/
theorem C05_setLen_idem (fs : Fs) (i n k : Nat) :
    ((fs.setLen i n).setLen i n).content k = (fs.setLen i n).content k := by
  simp only [setLen_eq, content_setData]
  split
  · simp only [if_true]; exact sl_idem n _
  · rfl

/-- `set_len n` commutes with a positional write that ends at or before `n`. That is the exact side condition:
    NOTHING is assumed about the length of the content before (shorter than `off`, between, longer than `n`: the
    zero-fill of the write and the zero-extension or truncation of `set_len` agree), and without `off + |d| ≤ n` the
    statement is false (next example). -/
theorem C05_setLen_writeAt_commute (fs : Fs) (i n off : Nat) (d : Bytes) (h : off + d.length ≤ n) (k : Nat) :
    ((fs.writeAt i off d).setLen i n).content k = ((fs.setLen i n).writeAt i off d).content k := by
  simp only [setLen_eq, writeAt_eq, content_setData]
  split
  · simp only [if_true]; exact sl_wr_comm n off d _ h
  · rfl

/-- a write reaching beyond `n`: truncating afterwards cuts it, truncating before does not -/
example : sl 1 (wr 0 [1, 2] []) = [1] ∧ wr 0 [1, 2] (sl 1 []) = [1, 2] := by decide

/-- and a zero-length write beyond `n` still moves the end of the file -/
example : sl 1 (wr 2 [] []) = [0] ∧ wr 2 [] (sl 1 []) = [0, 0] := by decide

/-- `set_len` or a positional write -/
inductive ByteOp where
  | setLen (n : Nat)
  | writeAt (off : Nat) (d : Bytes)

def ByteOp.app (o : ByteOp) (fs : Fs) (i : Nat) : Fs :=
  match o with
  | .setLen n => fs.setLen i n
  | .writeAt off d => fs.writeAt i off d

/-- `set_len` / positional writes on DIFFERENT inodes commute -/
theorem C05_other_inode_commute (fs : Fs) (a b : ByteOp) (i j : Nat) (hij : i ≠ j) (k : Nat) :
    (b.app (a.app fs i) j).content k = (a.app (b.app fs j) i).content k := by
  have hji : j ≠ i := fun e => hij e.symm
  -- either operation replaces the content of its inode by a function of that content alone
  have app : ∀ (o : ByteOp), ∃ f : Bytes → Bytes, ∀ (fs : Fs) (i k : Nat),
      (o.app fs i).content k = if k = i then f (fs.content i) else fs.content k := by
    intro o
    cases o with
    | setLen n => exact ⟨sl n, fun fs i k => by rw [ByteOp.app, setLen_eq, content_setData]⟩
    | writeAt off d => exact ⟨wr off d, fun fs i k => by rw [ByteOp.app, writeAt_eq, content_setData]⟩
  obtain ⟨f, hf⟩ := app a
  obtain ⟨g, hg⟩ := app b
  simp only [hf, hg, if_neg hij, if_neg hji]
  by_cases h1 : k = i
  · rw [if_pos h1, if_pos h1, if_neg (fun e => hij (h1.symm.trans e))]
  · rw [if_neg h1, if_neg h1]

/-- TWO CRITICAL SECTIONS COMMUTE. From a well-formed tree `fs` (`FsWF`), for two critical sections
    `(t1, L1, o1, d1)` and `(t2, L2, o2, d2)`:

    assumed
    * `hr1`, `hr2`: each write lies inside the declared length (`SegsInRange`: the layout puts a segment inside its
      file) — otherwise the `set_len` of the one cuts into the write of the other;
    * `hsame`: if the targets are the same path, the declared lengths are equal and the ranges are disjoint — for
      different lengths see `C05_sections_dup_path_cex` (finding D6), for overlapping ranges the later write wins;
    * `hna`: if the targets are different paths, they are not two names of one inode in `fs` (no hard link between
      the two images, a consequence of `NoAlias`) — see `C05_sections_alias_cex`. Other names may share an inode with
      either target: they see the same bytes in both orders.
    NOT assumed: that neither target is a proper prefix of the other. In that case both orders fail
    (`C05_sections_prefix_fail`), so the statement holds vacuously; the first conjunct covers it.

    proved
    * one order succeeds iff the other does (what "succeeds" means: `C05_sections_success`);
    * if both succeed, the resulting trees are observationally equivalent. They are in general NOT equal: when both
      targets are new, `t1` gets inode `next` in the one order and `next + 1` in the other. -/
theorem C05_sections_commute (fs : Fs) (hwf : FsWF fs) (t1 t2 : Path) (L1 L2 o1 o2 : Nat) (d1 d2 : Bytes)
    (hr1 : o1 + d1.length ≤ L1) (hr2 : o2 + d2.length ≤ L2)
    (hsame : t1 = t2 → L1 = L2 ∧ (o1 + d1.length ≤ o2 ∨ o2 + d2.length ≤ o1))
    (hna : t1 ≠ t2 → ∀ i j, fs.inoOf t1 = some i → fs.inoOf t2 = some j → i ≠ j) :
    (((fs.crit t1 L1 o1 d1).bind (fun f => f.crit t2 L2 o2 d2)).isSome
      = ((fs.crit t2 L2 o2 d2).bind (fun f => f.crit t1 L1 o1 d1)).isSome) ∧
    (∀ r r', (fs.crit t1 L1 o1 d1).bind (fun f => f.crit t2 L2 o2 d2) = some r →
      (fs.crit t2 L2 o2 d2).bind (fun f => f.crit t1 L1 o1 d1) = some r' → ObsEq r r') := by
  have hc : SecComp fs ⟨t1, L1, o1, d1⟩ ⟨t2, L2, o2, d2⟩ := ⟨hr1, hr2, hsame, hna⟩
  have key := crits_perm hwf (ls := [[⟨t1, L1, o1, d1⟩], [⟨t2, L2, o2, d2⟩]]) (List.Perm.swap _ _ _)
    (by
      simp only [List.pairwise_cons, List.mem_singleton, forall_eq, List.not_mem_nil, false_imp_iff, implies_true,
        List.Pairwise.nil, and_true]
      exact hc)
  simp only [List.flatten_cons, List.flatten_nil, List.append_nil, List.singleton_append, crits_pair] at key
  exact ⟨isSome_of_map_view key, fun r r' h1 h2 => obsEq_of_map_view key h1 h2⟩

/-- WHEN two critical sections succeed one after the other, from a well-formed tree: each of them succeeds on its
    own from `fs` — no name that `create_dir_all (parent t)` walks through (`RunX.mk t`: the proper prefixes of the
    parent, then the parent) is a regular file, and `t` is not a directory — and neither target is among the
    directories walked through for the other. The criterion is symmetric in the two sections, and it does not
    mention lengths, offsets or data. -/
theorem C05_sections_success (fs : Fs) (hwf : FsWF fs) (t1 t2 : Path) (L1 L2 o1 o2 : Nat) (d1 d2 : Bytes) :
    ((fs.crit t1 L1 o1 d1).bind (fun f => f.crit t2 L2 o2 d2)).isSome = true ↔
      CritOk fs t1 ∧ CritOk fs t2 ∧ t1 ∉ mk t2 ∧ t2 ∉ mk t1 :=
  crit_pair_isSome hwf ⟨t1, L1, o1, d1⟩ ⟨t2, L2, o2, d2⟩

/-- one critical section, from a well-formed tree: it succeeds iff `CritOk` -/
theorem C05_section_success (fs : Fs) (hwf : FsWF fs) (t : Path) (L off : Nat) (d : Bytes) :
    (fs.crit t L off d).isSome = true ↔ CritOk fs t := by
  rcases crit_spec hwf t L off d with ⟨h1, h2⟩ | ⟨h1, fs', i, h2, _⟩
  · rw [h2]; simp [h1]
  · rw [h2]; simp [h1]

/-- if one target is a proper prefix of the other, BOTH orders fail (in the one the file blocks `create_dir_all`, in
    the other the open finds a directory) -/
theorem C05_sections_prefix_fail (fs : Fs) (hwf : FsWF fs) (t1 t2 : Path) (L1 L2 o1 o2 : Nat) (d1 d2 : Bytes)
    (hp : Path.isProperPrefixOf t1 t2) :
    (fs.crit t1 L1 o1 d1).bind (fun f => f.crit t2 L2 o2 d2) = none ∧
    (fs.crit t2 L2 o2 d2).bind (fun f => f.crit t1 L1 o1 d1) = none := by
  constructor
  · cases h : (fs.crit t1 L1 o1 d1).bind (fun f => f.crit t2 L2 o2 d2) with
    | none => rfl
    | some r =>
      have := (C05_sections_success fs hwf t1 t2 L1 L2 o1 o2 d1 d2).1 (by rw [h]; rfl)
      exact absurd (mem_mk_of_isProperPrefix hp (critOk_ne_nil this.1)) this.2.2.1
  · cases h : (fs.crit t2 L2 o2 d2).bind (fun f => f.crit t1 L1 o1 d1) with
    | none => rfl
    | some r =>
      have := (C05_sections_success fs hwf t2 t1 L2 L1 o2 o1 d2 d1).1 (by rw [h]; rfl)
      exact absurd (mem_mk_of_isProperPrefix hp (critOk_ne_nil this.2.1)) this.2.2.2

namespace C05w

/-- an empty tree -/
def fs0 : Fs := ⟨[], [], [], 0⟩
/-- the image `d/x`; the directory `d` does not exist yet -/
def tx : Path := [[100], [120]]

theorem wf0 : FsWF fs0 :=
  ⟨fun _ _ h => (by cases h), List.nodup_nil, fun _ _ h => (by cases h), fun _ _ h => (by cases h)⟩

/-- a tree with one file of two names `a`, `b` (a hard link), content `[9]` -/
def fsL : Fs := ⟨[([[97]], 0), ([[98]], 0)], [], [(0, [9])], 1⟩

theorem wfL : FsWF fsL := by decide +kernel

end C05w
open C05w

/-- NON-VACUITY of `C05_sections_commute`: the same target `d/x`, which does not exist yet (nor does `d`), declared
    length 2, the two disjoint ranges [0,1) and [1,2). Both orders succeed and the theorem applies. -/
example : ∃ r r',
    (fs0.crit tx 2 0 [5]).bind (fun f => f.crit tx 2 1 [7]) = some r ∧
    (fs0.crit tx 2 1 [7]).bind (fun f => f.crit tx 2 0 [5]) = some r' ∧
    r.look tx = .file 0 ∧ r.content 0 = [5, 7] ∧ ObsEq r r' := by
  have h12 : (fs0.crit tx 2 0 [5]).bind (fun f => f.crit tx 2 1 [7])
      = some ⟨[(tx, 0)], [[[100]]], [(0, [5, 7])], 1⟩ := by decide +kernel
  have h21 : ((fs0.crit tx 2 1 [7]).bind (fun f => f.crit tx 2 0 [5])).isSome = true := by decide +kernel
  obtain ⟨r', h21⟩ := Option.isSome_iff_exists.1 h21
  refine ⟨_, r', h12, h21, by decide +kernel, by decide +kernel, ?_⟩
  exact (C05_sections_commute fs0 wf0 tx tx 2 2 0 1 [5] [7] (by decide) (by decide)
    (fun _ => ⟨rfl, Or.inl (by decide)⟩) (fun h => absurd rfl h)).2 _ _ h12 h21

/-- NON-VACUITY, two different new targets `d/x` and `y`: the inode numbers differ between the two orders, the
    trees are not equal, and they are observationally equivalent -/
example : ∃ r r',
    (fs0.crit tx 1 0 [5]).bind (fun f => f.crit [[121]] 1 0 [7]) = some r ∧
    (fs0.crit [[121]] 1 0 [7]).bind (fun f => f.crit tx 1 0 [5]) = some r' ∧
    r.inoOf tx = some 0 ∧ r'.inoOf tx = some 1 ∧ r ≠ r' ∧ ObsEq r r' := by
  have h12 : ((fs0.crit tx 1 0 [5]).bind (fun f => f.crit [[121]] 1 0 [7])).isSome = true := by decide +kernel
  have h21 : ((fs0.crit [[121]] 1 0 [7]).bind (fun f => f.crit tx 1 0 [5])).isSome = true := by decide +kernel
  have i12 : (((fs0.crit tx 1 0 [5]).bind (fun f => f.crit [[121]] 1 0 [7])).map (·.inoOf tx)) = some (some 0) := by
    decide +kernel
  have i21 : (((fs0.crit [[121]] 1 0 [7]).bind (fun f => f.crit tx 1 0 [5])).map (·.inoOf tx)) = some (some 1) := by
    decide +kernel
  obtain ⟨r, h12⟩ := Option.isSome_iff_exists.1 h12
  obtain ⟨r', h21⟩ := Option.isSome_iff_exists.1 h21
  rw [h12] at i12
  rw [h21] at i21
  have e1 : r.inoOf tx = some 0 := Option.some.inj i12
  have e2 : r'.inoOf tx = some 1 := Option.some.inj i21
  refine ⟨r, r', h12, h21, e1, e2, ?_, ?_⟩
  · intro e
    rw [e, e2] at e1
    cases e1
  · exact (C05_sections_commute fs0 wf0 tx [[121]] 1 1 0 0 [5] [7] (by decide) (by decide)
      (fun h => absurd h (by decide)) (fun _ i j h => by cases h)).2 _ _ h12 h21

/-- THE DUPLICATE-PATH DEFECT (finding D6): the same target with two different declared lengths. All the other
    hypotheses of `C05_sections_commute` hold — well-formed (empty) tree, each write inside its declared length
    ([1,2) ⊆ [0,2) and [0,1) ⊆ [0,1)), disjoint ranges — both orders succeed, and the results differ: after
    "length 2 first" the file is `[5]` (the later `set_len 1` cut the byte written at offset 1), after "length 1 first"
    it is `[5, 7]`. -/
theorem C05_sections_dup_path_cex :
    ∃ r r',
      (fs0.crit tx 2 1 [7]).bind (fun f => f.crit tx 1 0 [5]) = some r ∧
      (fs0.crit tx 1 0 [5]).bind (fun f => f.crit tx 2 1 [7]) = some r' ∧
      r.look tx = .file 0 ∧ r'.look tx = .file 0 ∧ r.content 0 = [5] ∧ r'.content 0 = [5, 7] ∧ ¬ ObsEq r r' := by
  have h12 : (fs0.crit tx 2 1 [7]).bind (fun f => f.crit tx 1 0 [5])
      = some ⟨[(tx, 0)], [[[100]]], [(0, [5])], 1⟩ := by decide +kernel
  have h21 : (fs0.crit tx 1 0 [5]).bind (fun f => f.crit tx 2 1 [7])
      = some ⟨[(tx, 0)], [[[100]]], [(0, [5, 7])], 1⟩ := by decide +kernel
  refine ⟨_, _, h12, h21, by decide +kernel, by decide +kernel, by decide +kernel, by decide +kernel, ?_⟩
  intro h
  have := h.2.2.1 tx 0 0 (by decide +kernel) (by decide +kernel)
  exact absurd this (by decide +kernel)

/-- hence `hsame` cannot be dropped from `C05_sections_commute` -/
theorem C05_sections_commute_needs_hsame :
    ¬ (∀ (fs : Fs), FsWF fs → ∀ (t : Path) (L1 L2 o1 o2 : Nat) (d1 d2 : Bytes),
        o1 + d1.length ≤ L1 → o2 + d2.length ≤ L2 → (o1 + d1.length ≤ o2 ∨ o2 + d2.length ≤ o1) →
        ∀ r r', (fs.crit t L1 o1 d1).bind (fun f => f.crit t L2 o2 d2) = some r →
          (fs.crit t L2 o2 d2).bind (fun f => f.crit t L1 o1 d1) = some r' → ObsEq r r') := by
  intro h
  obtain ⟨r, r', h1, h2, _, _, _, _, hne⟩ := C05_sections_dup_path_cex
  exact hne (h fs0 wf0 tx 2 1 1 0 [7] [5] (by decide) (by decide) (Or.inr (by decide)) r r' h1 h2)

/-- THE HARD-LINK COUNTEREXAMPLE: two different targets `a`, `b` that are two names of one inode, same declared
    length, the same range. Both orders succeed and the later write wins: `hna` cannot be dropped. -/
theorem C05_sections_alias_cex :
    FsWF fsL ∧ ∃ r r',
      (fsL.crit [[97]] 1 0 [1]).bind (fun f => f.crit [[98]] 1 0 [2]) = some r ∧
      (fsL.crit [[98]] 1 0 [2]).bind (fun f => f.crit [[97]] 1 0 [1]) = some r' ∧
      r.content 0 = [2] ∧ r'.content 0 = [1] ∧ ¬ ObsEq r r' := by
  have h12 : (fsL.crit [[97]] 1 0 [1]).bind (fun f => f.crit [[98]] 1 0 [2])
      = some ⟨[([[97]], 0), ([[98]], 0)], [], [(0, [2])], 1⟩ := by decide +kernel
  have h21 : (fsL.crit [[98]] 1 0 [2]).bind (fun f => f.crit [[97]] 1 0 [1])
      = some ⟨[([[97]], 0), ([[98]], 0)], [], [(0, [1])], 1⟩ := by decide +kernel
  refine ⟨wfL, _, _, h12, h21, by decide +kernel, by decide +kernel, ?_⟩
  intro h
  have := h.2.2.1 [[97]] 0 0 (by decide +kernel) (by decide +kernel)
  exact absurd this (by decide +kernel)

/-- the hypotheses the run-level theorems make (`NoAlias`, `SegsInRange`, `hsame`, `RangesDisjoint` — only its first,
    cross-item clause is used) give `PiecesCompat` for two different work items whose entries are in the table -/
theorem C05_compat_of_layout (fs : Fs) (table : List TEntry) (work : List Work)
    (hna : NoAlias fs table) (hrange : ∀ w ∈ work, SegsInRange w)
    (hsame : ∀ e ∈ table, ∀ f ∈ table, e.isPad = false → f.isPad = false →
      e.fullTarget = f.fullTarget → e.fileLength = f.fileLength)
    (hdisj : RangesDisjoint work) (hent : ∀ w ∈ work, ∀ s ∈ w.segs, s.ent ∈ table)
    (a b : Nat) (w1 w2 : Work) (ha : work[a]? = some w1) (hb : work[b]? = some w2) (hab : a ≠ b) :
    PiecesCompat fs w1 w2 := by
  have m1 := List.mem_of_getElem? ha
  have m2 := List.mem_of_getElem? hb
  refine ⟨hrange _ m1, hrange _ m2, ?_, ?_, ?_⟩
  · intro s hs t ht sp tp e
    exact hdisj.1 a b w1 w2 ha hb hab s hs t ht sp tp e
  · intro s hs t ht sp tp e
    exact hsame _ (hent _ m1 _ hs) _ (hent _ m2 _ ht) sp tp e
  · intro s hs t ht sp tp e i j hi hj hij
    subst hij
    exact e (hna _ (hent _ m1 _ hs) sp _ _ hi hj).symm

/-- THE WRITES OF TWO PIECES COMMUTE. `w1`, `w2` are work items, `src1`, `src2` the sources of their segments (as
    `solvePiece` passes them: a segment matched from its own export image is skipped), `b1`, `b2` the buffers.

    assumed
    * `hf`: no fault points (`faults = []`): the statement is about the interleaving, not about I/O errors;
    * `hwf`: the tree is well-formed (`FsWF`);
    * `hc : PiecesCompat fs w1 w2`: `SegsInRange` for both; for a non-padding segment of `w1` and one of `w2` with
      the same image: disjoint ranges (the CROSS-ITEM clause of `RangesDisjoint`) and the same declared length
      (`hsame`; without it: `C05_sections_dup_path_cex`); with different images: no shared inode. NOTHING is assumed
      about two segments of the same piece (they keep their order), in particular not the second clause of
      `RangesDisjoint`;
    * all four calls answer `found`.
    NOT assumed: `|b_k| = Σ segment lengths`. It is not needed: `found` already says that the buffer reached the end
    of every written segment, and a slice is never longer than its segment.

    proved: the two final trees are observationally equivalent. The `ops` logs differ (order); only `.fs` is
    compared. -/
theorem C05_pieces_commute (st : St) (hf : st.faults = []) (hwf : FsWF st.fs)
    (w1 w2 : Work) (src1 src2 : List (Option Path)) (b1 b2 : Bytes) (hc : PiecesCompat st.fs w1 w2)
    (h1 : (writeSegs st (w1.segs.zip src1) b1 0).2 = .found)
    (h12 : (writeSegs (writeSegs st (w1.segs.zip src1) b1 0).1 (w2.segs.zip src2) b2 0).2 = .found)
    (h2 : (writeSegs st (w2.segs.zip src2) b2 0).2 = .found)
    (h21 : (writeSegs (writeSegs st (w2.segs.zip src2) b2 0).1 (w1.segs.zip src1) b1 0).2 = .found) :
    ObsEq (writeSegs (writeSegs st (w1.segs.zip src1) b1 0).1 (w2.segs.zip src2) b2 0).1.fs
      (writeSegs (writeSegs st (w2.segs.zip src2) b2 0).1 (w1.segs.zip src1) b1 0).1.fs := by
  obtain ⟨c1, f1, _⟩ := writeSegs_crits _ st _ b1 0 hf (Prod.ext rfl h1)
  obtain ⟨c12, _, _⟩ := writeSegs_crits _ _ _ b2 0 f1 (Prod.ext rfl h12)
  obtain ⟨c2, f2, _⟩ := writeSegs_crits _ st _ b2 0 hf (Prod.ext rfl h2)
  obtain ⟨c21, _, _⟩ := writeSegs_crits _ _ _ b1 0 f2 (Prod.ext rfl h21)
  let it1 : WItem := (w1, src1, b1)
  let it2 : WItem := (w2, src2, b2)
  have key := crits_perm hwf (ls := [it1.secs, it2.secs]) (List.Perm.swap _ _ _)
    (by
      simp only [List.pairwise_cons, List.mem_singleton, forall_eq, List.not_mem_nil, false_imp_iff, implies_true,
        List.Pairwise.nil, and_true]
      exact secComp_of_items (a := it1) (b := it2) hc)
  simp only [List.flatten_cons, List.flatten_nil, List.append_nil, crits_append] at key
  refine obsEq_of_map_view key ?_ ?_
  · show (st.fs.crits (secsOf (w1.segs.zip src1) b1 0)).bind _ = _
    rw [c1]; exact c12
  · show (st.fs.crits (secsOf (w2.segs.zip src2) b2 0)).bind _ = _
    rw [c2]; exact c21

/-- and the one order answers `found` twice iff the other does (same hypotheses, except that nothing is assumed
    about the answers) -/
theorem C05_pieces_commute_found (st : St) (hf : st.faults = []) (hwf : FsWF st.fs)
    (w1 w2 : Work) (src1 src2 : List (Option Path)) (b1 b2 : Bytes) (hc : PiecesCompat st.fs w1 w2) :
    (writeAll st [(w1, src1, b1), (w2, src2, b2)]).2 = (writeAll st [(w2, src2, b2), (w1, src1, b1)]).2 := by
  have one : ∀ (a b : WItem), PiecesCompat st.fs a.1 b.1 →
      (writeAll st [a, b]).2 = true → (writeAll st [b, a]).2 = true := by
    intro a b hab h
    obtain ⟨c, hb⟩ := writeAll_crits [a, b] st _ hf (Prod.ext rfl h)
    have key := crits_perm hwf (ls := [a.secs, b.secs]) (List.Perm.swap _ _ _)
      (by
        simp only [List.pairwise_cons, List.mem_singleton, forall_eq, List.not_mem_nil, false_imp_iff, implies_true,
          List.Pairwise.nil, and_true]
        exact secComp_of_items hab)
    have hs := isSome_of_map_view key
    simp only [List.map_cons, List.map_nil] at c
    rw [c] at hs
    obtain ⟨fs', e⟩ := Option.isSome_iff_exists.1 hs.symm
    exact writeAll_of_crits [b, a] st fs' hf e (fun x hx => hb x (by
      rcases List.mem_cons.1 hx with rfl | hx
      · exact List.mem_cons_of_mem _ List.mem_cons_self
      · rcases List.mem_cons.1 hx with rfl | hx
        · exact List.mem_cons_self
        · cases hx))
  rw [Bool.eq_iff_iff]
  exact ⟨one _ _ hc, one _ _ hc.symm⟩

/-- ANY WRITE ORDER. `items` is a list of verified pieces (work item, sources, buffer) that are pairwise
    `PiecesCompat` from the initial tree (for work items of a run: `C05_compat_of_layout`), `items'` any permutation
    of it; no fault points; well-formed initial tree. Then

    * writing `items'` one after the other answers `found` every time iff writing `items` in list order does;
    * if so, the two final trees are observationally equivalent.

    `PiecesCompat` is only asked of DIFFERENT positions of the list (`List.Pairwise`); the segments of one piece are
    always written in their own order.

    Proof: on the observable part of the tree the critical sections of different items commute with equality
    (`RunX.vcrit_comm`), so blocks of sections commute (`RunX.vrun_block_swap`), so the sequence of blocks may be
    permuted (`RunX.vrun_perm`, induction on `List.Perm`: the adjacent transpositions). -/
theorem C05_any_write_order (st : St) (hf : st.faults = []) (hwf : FsWF st.fs) (items items' : List WItem)
    (hp : List.Perm items items') (hc : items.Pairwise (fun a b => PiecesCompat st.fs a.1 b.1)) :
    ((writeAll st items').2 = (writeAll st items).2) ∧
    ((writeAll st items).2 = true → (writeAll st items').2 = true →
      ObsEq (writeAll st items').1.fs (writeAll st items).1.fs) := by
  have hc' : items'.Pairwise (fun a b => PiecesCompat st.fs a.1 b.1) := hp.pairwise hc (fun h => h.symm)
  have key := crits_perm hwf (hp.map WItem.secs)
    (List.pairwise_map.2 (hc.imp (fun h => secComp_of_items h)))
  have dir : ∀ (l l' : List WItem), List.Perm l l' →
      (st.fs.crits (l.map WItem.secs).flatten).map view = (st.fs.crits (l'.map WItem.secs).flatten).map view →
      (writeAll st l).2 = true → (writeAll st l').2 = true := by
    intro l l' hp' k h
    obtain ⟨c, hb⟩ := writeAll_crits l st _ hf (Prod.ext rfl h)
    have hs := isSome_of_map_view k
    rw [c] at hs
    obtain ⟨fs', e⟩ := Option.isSome_iff_exists.1 hs.symm
    exact writeAll_of_crits l' st fs' hf e (fun x hx => hb x (hp'.symm.subset hx))
  refine ⟨?_, ?_⟩
  · rw [Bool.eq_iff_iff]
    exact ⟨dir _ _ hp.symm key.symm, dir _ _ hp key⟩
  · intro h h'
    obtain ⟨c, _⟩ := writeAll_crits items st _ hf (Prod.ext rfl h)
    obtain ⟨c', _⟩ := writeAll_crits items' st _ hf (Prod.ext rfl h')
    exact obsEq_of_map_view key.symm c' c

namespace C05w

/-- the entry of the image `d/x`, declared length 2 -/
def ex : TEntry := ⟨0, [], 0, 2, tx, [[120]], false, none⟩
/-- piece 1: the range [0,1) of `d/x` -/
def w1 : Work := ⟨[⟨1, 0, ex⟩], []⟩
/-- piece 2: the range [1,2) of `d/x` -/
def w2 : Work := ⟨[⟨1, 1, ex⟩], []⟩
def st0 : St := ⟨fs0, [], []⟩

theorem compat12 : PiecesCompat st0.fs w1 w2 := by
  refine ⟨?_, ?_, ?_, ?_, ?_⟩
  · intro s hs
    have : ∀ s ∈ w1.segs, s.off + s.len ≤ s.ent.fileLength := by decide +kernel
    exact this s hs
  · intro s hs
    have : ∀ s ∈ w2.segs, s.off + s.len ≤ s.ent.fileLength := by decide +kernel
    exact this s hs
  · intro s hs t ht _ _ _
    have : ∀ s ∈ w1.segs, ∀ t ∈ w2.segs, s.off + s.len ≤ t.off ∨ t.off + t.len ≤ s.off := by decide +kernel
    exact this s hs t ht
  · intro s hs t ht _ _ _
    have : ∀ s ∈ w1.segs, ∀ t ∈ w2.segs, s.ent.fileLength = t.ent.fileLength := by decide +kernel
    exact this s hs t ht
  · intro s hs t ht _ _ hne
    have : ∀ s ∈ w1.segs, ∀ t ∈ w2.segs, s.ent.fullTarget = t.ent.fullTarget := by decide +kernel
    exact absurd (this s hs t ht) hne

end C05w

/-- NON-VACUITY of `C05_pieces_commute`: two pieces writing the two halves of the image `d/x`, which does not exist
    yet; all four calls answer `found`; the image ends up as `[5, 7]` -/
example :
    ObsEq (writeSegs (writeSegs st0 (w1.segs.zip [none]) [5] 0).1 (w2.segs.zip [none]) [7] 0).1.fs
      (writeSegs (writeSegs st0 (w2.segs.zip [none]) [7] 0).1 (w1.segs.zip [none]) [5] 0).1.fs
    ∧ (writeSegs (writeSegs st0 (w1.segs.zip [none]) [5] 0).1 (w2.segs.zip [none]) [7] 0).1.fs.content 0 = [5, 7] :=
  ⟨C05_pieces_commute st0 rfl wf0 w1 w2 [none] [none] [5] [7] compat12
    (by decide +kernel) (by decide +kernel) (by decide +kernel) (by decide +kernel), by decide +kernel⟩

/-- NON-VACUITY of `C05_any_write_order`: the same two pieces, list order and the swapped order -/
example :
    (writeAll st0 [(w2, [none], [7]), (w1, [none], [5])]).2 = true ∧
    ObsEq (writeAll st0 [(w2, [none], [7]), (w1, [none], [5])]).1.fs
      (writeAll st0 [(w1, [none], [5]), (w2, [none], [7])]).1.fs := by
  have h := C05_any_write_order st0 rfl wf0 [(w1, [none], [5]), (w2, [none], [7])]
    [(w2, [none], [7]), (w1, [none], [5])] (List.Perm.swap _ _ _)
    (by
      simp only [List.pairwise_cons, List.mem_singleton, forall_eq, List.not_mem_nil, false_imp_iff, implies_true,
        List.Pairwise.nil, and_true]
      exact compat12)
  have hf : (writeAll st0 [(w1, [none], [5]), (w2, [none], [7])]).2 = true := by decide +kernel
  have hf' := h.1.trans hf
  exact ⟨hf', h.2 hf hf'⟩

end TB
