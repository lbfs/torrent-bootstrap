/-
  C16 — bad paths fail before any change; a run without torrents does nothing.
-/
import TB.Spec.ExportSpec
import TB.Lemmas.Run
import TB.Lemmas.RunB
import TB.Lemmas.RunY
namespace TB
open TB.RB
/-- a path argument the tool must refuse -/
def BadArg (fs : Fs) (a : PathArg) : Prop := a.absolute = false ∨ fs.look a.path ≠ .dir

/-- no torrents: success, nothing touched, nothing even looked at -/
theorem C16_empty (H : Bytes → Bytes) (inp : RunIn) (h : inp.torrents = []) :
    (run H inp).result = .ok () ∧ (run H inp).ops = [] ∧ (run H inp).fs = inp.fs := by
  simp [run, h]

/-- validation only stats and never changes the tree -/
theorem C16_validate_readonly (st : St) (args : List PathArg) :
    (validateAll st args).1.fs = st.fs ∧
    ∃ new, (validateAll st args).1.ops = st.ops ++ new ∧ ∀ o ∈ new, o.kind = .stat := by
  exact ⟨(validateAll_spec st args).1, (validateAll_spec st args).2.2.1⟩

/-- any bad scan or export path makes validation fail -/
theorem C16_validate_detects (st : St) (args : List PathArg)
    (h : ∃ a ∈ args, BadArg st.fs a) : (validateAll st args).2 = false := by
  obtain ⟨a, ha, hb⟩ := h
  cases hv : (validateAll st args).2
  · rfl
  · obtain ⟨h1, h2⟩ := (validateAll_spec st args).2.2.2 hv a ha
    rcases hb with hb | hb
    · rw [h1] at hb; cases hb
    · exact absurd h2 hb

/-- a run given a relative, missing or non-directory scan/export path fails before touching anything -/
theorem C16_validate (H : Bytes → Bytes) (inp : RunIn) (hne : inp.torrents ≠ [])
    (h : ∃ a ∈ inp.scan ++ [inp.exportDir], BadArg inp.fs a) :
    (run H inp).result = .err ∧ (run H inp).fs = inp.fs ∧ ∀ o ∈ (run H inp).ops, o.kind = .stat := by
  have hd := C16_validate_detects ⟨inp.fs, [], inp.faults⟩ _ h
  obtain ⟨h1, n, h2, h3⟩ := C16_validate_readonly ⟨inp.fs, [], inp.faults⟩ (inp.scan ++ [inp.exportDir])
  rw [RunY.run_validate_false H inp hne hd]
  refine ⟨rfl, h1, ?_⟩
  show ∀ o ∈ (runSt1 inp).ops, _
  rw [show (runSt1 inp).ops = _ from h2]
  exact h3

/-- evaluating a piece never panics, whatever the hash function, the tree, the candidates and the fault points,
    provided a single-segment piece is not an empty non-padding segment -/
theorem solvePiece_ne_panic (H : Bytes → Bytes) (st : St) (w : Work)
    (hsingle : ∀ s, w.segs = [s] → s.len ≠ 0 ∨ s.ent.isPad = true) :
    (solvePiece H st w).2 ≠ .panic := by
  -- `panic` comes out of three branches of `solvePiece`
  fun_cases solvePiece H st w
  -- a lone non-padding segment without a candidate list (`unwrap` of `None`): it was not rejected, so it is empty
  case case4 rej hrej seg hsegs hpad hs =>
    rcases hsingle seg hsegs with h | h
    · exact absurd (by simpa [rej, hsegs, hpad, hs] using hrej) h
    · exact absurd h hpad
  -- the scan and the preload hand a panic on, and never produce one
  case case8 seg _ _ paths _ _ hscan => exact absurd (by rw [hscan]) (scanSingle_spec H w.hash seg st paths).1
  case case12 hpre => exact absurd (by rw [hpre]) (preload_no_panic st w.segs)
  case case5 | case9 => exact writeSegs_ne_panic _ _ _ _
  all_goals exact Solved.noConfusion

/-- evaluating a piece never reaches a panic branch when (a) any byte string hashing to the piece hash has the
    piece's length and (b) a piece with a single segment has positive length or is padding — (b) is a fact of
    the layout (C06), (a) is implied by collision-freeness of the hash against the true piece data -/
theorem C16_piece_total_partial (H : Bytes → Bytes) (st : St) (w : Work)
    (hlen : ∀ b, H b = w.hash → b.length = (w.segs.map (·.len)).sum)
    (hsingle : ∀ s, w.segs = [s] → s.len ≠ 0 ∨ s.ent.isPad = true) :
    (solvePiece H st w).2 ≠ .panic :=
  solvePiece_ne_panic H st w hsingle

end TB
