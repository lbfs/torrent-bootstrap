/-
  C01 — only SHA-1-verified torrent bytes are written, at their own offset.
  `H` is a parameter; the state `st` (file system contents, earlier log, fault points) is arbitrary, so the
  theorems cover every interleaving with other workers and every external interference with the files read.
-/
import TB.Spec.ExportSpec
import TB.Lemmas.Run
import TB.Lemmas.RunARun
namespace TB

theorem solvePiece_ops_extend (H : Bytes → Bytes) (st : St) (w : Work) :
    ∃ new, (solvePiece H st w).1.ops = st.ops ++ new :=
  (solvePiece_trace H st w).ext.extends

/-- every write issued while evaluating a piece stores a slice of a buffer whose hash is the piece hash, cut
    at the segment's own position in the buffer, at the segment's file offset in the segment's export image -/
theorem C01_write_sound (H : Bytes → Bytes) (st : St) (w : Work) :
    ∀ o ∈ newOps st (solvePiece H st w).1, WriteSound H w o := by
  intro o ho
  exact PieceOp.writeSound ((solvePiece_trace H st w).ext.newOps o ho)

/-- the hash comparison gates the first mutation: if evaluating a piece mutated anything, some buffer matched -/
theorem C01_gate (H : Bytes → Bytes) (st : St) (w : Work)
    (h : ∃ o ∈ newOps st (solvePiece H st w).1, o.kind.mutating = true) :
    ∃ buf, H buf = w.hash := by
  obtain ⟨o, ho, hm⟩ := h
  exact PieceOp.gate ((solvePiece_trace H st w).ext.newOps o ho) hm

/-- the writer on its own: whatever sources and buffer it is given, segment `k` is cut at `segStart k` —
    skipped segments (padding, already exported) still advance the cursor -/
theorem C01_writer_cursor (st : St) (pairs : List (WSeg × Option Path)) (buf : Bytes) (start : Nat) :
    ∀ o ∈ newOps st (writeSegs st pairs buf start).1, ∀ off data, o.kind = .write off data →
      ∃ k seg, (pairs.map (·.1))[k]? = some seg ∧ o.path = seg.ent.fullTarget ∧ off = seg.off
        ∧ data = (buf.drop (start + segStart (pairs.map (·.1)) k)).take seg.len := by
  intro o ho off data hk
  obtain ⟨k, seg, hseg, _, hs⟩ := (writeSegs_trace st pairs buf start).ext.newOps o ho
  obtain ⟨h1, h2, h3, _⟩ := SegOp.write hs hk
  exact ⟨k, seg, hseg, h1, h2, h3⟩

/-- run level: every write of a whole run belongs to some work item of that run and is sound for it -/
theorem C01_run (H : Bytes → Bytes) (inp : RunIn) :
    ∀ o ∈ (run H inp).ops, ∀ off data, o.kind = .write off data →
      ∃ w ∈ (run H inp).work, WriteSound H w o := by
  intro o ho off data hk
  rcases (run_inv H inp).2 o ho with (h | h | ⟨e, _, _, h | h, _⟩) | ⟨w, hw, h, _⟩
  · rw [h] at hk; cases hk
  · rw [h] at hk; cases hk
  · rw [h] at hk; cases hk
  · rw [h] at hk; cases hk
  · exact ⟨w, hw, h.writeSound⟩

end TB
