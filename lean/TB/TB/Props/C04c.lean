/-
  C04 (clause c) / C15 (completeness of "succeeded" for already verified pieces), at run level:
  when every piece already verifies in the export tree (images of the declared length), a run performs no
  mutating operation at all, leaves the tree exactly as it was, and counts every piece as succeeded.
-/
import TB.Spec.ExportSpec
import TB.Props.C04
import TB.Props.C04a
import TB.Props.C02run
import TB.Lemmas.RunI
namespace TB

/-- piece `w` verifies strictly in `fs`: it verifies, and every non-padding segment's export image is a regular
    file of exactly the declared length -/
def StrictVer (H : Bytes → Bytes) (fs : Fs) (w : Work) : Prop :=
  VerE H fs w ∧ ∀ s ∈ w.segs, s.ent.isPad = false →
    ∃ i, fs.look s.ent.fullTarget = .file i ∧ (fs.content i).length = s.ent.fileLength

/-- the scan and export arguments are absolute paths of existing directories -/
def ArgsOk (fs : Fs) (inp : RunIn) : Prop :=
  ∀ a ∈ inp.scan ++ [inp.exportDir], a.absolute = true ∧ fs.look a.path = .dir

/-- idle run: no fault injected, flag off, every work item of the run verifies strictly in the initial tree ⇒
    the run succeeds, performs no mutating operation, leaves the tree untouched and reports every piece as
    succeeded (the final record is `total` successes, no failure, no fault) -/
theorem C04c_idle (H : Bytes → Bytes) (inp : RunIn)
    (hwf : FsWF inp.fs) (hargs : ArgsOk inp.fs inp) (hne : inp.torrents ≠ [])
    (hnofault : inp.faults = []) (hres : inp.resize = false)
    (hwork : ∃ ws, convertPiecesToWork (run H inp).table (dedupTorrents (sortTorrents inp.torrents)) = some ws)
    (hall : ∀ w ∈ (run H inp).work, StrictVer H inp.fs w) :
    (run H inp).result = .ok () ∧ (run H inp).fs = inp.fs ∧
    (∀ o ∈ (run H inp).ops, o.kind.mutating = false) ∧
    (∀ c ∈ (run H inp).counters.getLast?, c.success = (run H inp).work.length ∧ c.failed = 0 ∧ c.fault = 0) := by
  have hv : RB.valOk inp = true := RunI.validateAll_ok _ _ hnofault hargs
  have e1 : RC.ROExt ⟨inp.fs, [], inp.faults⟩ (RB.runSt1 inp) := RunI.validateAll_roext _ _
  have e2 : RB.runSt2 inp = RB.runSt1 inp := by simp only [RB.runSt2, hres, Bool.false_eq_true, if_false]
  exact RunI.idle_core H inp hwf hne hnofault hv (fun h => by rw [hres] at h; cases h) (by rw [e2]; exact e1)
    hwork hall

/-- the same with the flag on: the pre-flight finds nothing to extend and nothing over-long among the images the
    pieces use, provided no other export image of the loaded torrents is shorter or longer than declared -/
theorem C04c_idle_resize (H : Bytes → Bytes) (inp : RunIn)
    (hwf : FsWF inp.fs) (hargs : ArgsOk inp.fs inp) (hne : inp.torrents ≠ [])
    (hnofault : inp.faults = []) (hres : inp.resize = true)
    (hlens : ∀ e ∈ (run H inp).table, e.isPad = false → ∀ i, inp.fs.look e.fullTarget = .file i →
      (inp.fs.content i).length = e.fileLength)
    (hnotdir : ∀ e ∈ (run H inp).table, e.isPad = false → inp.fs.look e.fullTarget ≠ .notDir ∧ inp.fs.look e.fullTarget ≠ .dir)
    (hwork : ∃ ws, convertPiecesToWork (run H inp).table (dedupTorrents (sortTorrents inp.torrents)) = some ws)
    (hall : ∀ w ∈ (run H inp).work, StrictVer H inp.fs w) :
    (run H inp).result = .ok () ∧ (run H inp).fs = inp.fs ∧
    (∀ o ∈ (run H inp).ops, o.kind.mutating = false) := by
  have hv : RB.valOk inp = true := RunI.validateAll_ok _ _ hnofault hargs
  have e1 : RC.ROExt ⟨inp.fs, [], inp.faults⟩ (RB.runSt1 inp) := RunI.validateAll_roext _ _
  have hlo : RunI.LensOk inp.fs (RB.runTable0 inp) := by
    intro e he hpad
    obtain ⟨e', he', s, rfl⟩ := RunI.run_table_cover H inp hne hv e he
    exact ⟨hlens { e with searches := s } he' hpad, hnotdir { e with searches := s } he' hpad⟩
  obtain ⟨f1, f2⟩ := RunI.fixExportFileLengths_idle inp.fs _ hlo (RB.runSt1 inp) e1.fs (e1.faults.trans hnofault)
  have e2 : RB.runSt2 inp = (fixExportFileLengths (RB.runSt1 inp) (RB.runTable0 inp)).1 := by
    simp only [RB.runSt2, hres, if_true]
  have key := RunI.idle_core H inp hwf hne hnofault hv (fun _ => f1) (by rw [e2]; exact e1.trans f2) hwork hall
  exact ⟨key.1, key.2.1, key.2.2.1⟩

end TB
