/-
  C04 over histories — "verified export data is never rewritten, damaged or lost" over ANY sequence of runs
  (different torrent subsets, scan directories, flags, fault points, interruptions at any point).

  `TB.Props.C04h` covers ONE run, and its side conditions speak of the tree the run starts from and of the run's
  table and work list, which depend on that tree through the candidate lists (`searches`). Here:

  1. the standing tree invariants (`FsWF`, `NoAlias` with respect to any table) are shown to hold at every prefix of
     a run's log, hence at every instant of every history;
  2. `C04_history`: a piece that verifies in the initial tree verifies after any history, with hypotheses only on
     the initial tree (`FsWF`, `NoAlias` for the tables of the steps) and on tree-independent data of each step
     (`table0`, `work0`: the table and work list before candidate lists are filled in);
  3. `C04_history_monotone`: over any history the set of verifying pieces only grows; `C04_run_monotone`: the same
     between any two instants of one run.
-/
import TB.Spec.ExportSpec
import TB.Props.C11
import TB.Props.C04a
import TB.Props.C01bytes
import TB.Props.C04h
import TB.Lemmas.RunR
namespace TB

/-- a well-formed tree stays well-formed at every interruption point of a run (no hypothesis besides `FsWF` of
    the initial tree).

    This is a property of the run's LOG, not of single operations: an `openc` on its own can break the fourth clause
    of `FsWF` (`C04_openc_alone_breaks_wf` below). In a run's log every `openc p` directly follows a successful
    `mkdirs (parent p)` (the writer stops after a failed `create_dir_all`), and that pair keeps `FsWF`
    (`RunR.wf_mkdirs_openCreate`); every other kind of operation keeps it unconditionally (`RunR.wf_applyOp`). -/
theorem C04_wf_prefix (H : Bytes → Bytes) (inp : RunIn) (hwf : FsWF inp.fs) (n : Nat) :
    FsWF (replay inp.fs ((run H inp).ops.take n)) :=
  RunR.run_wflog H inp inp.fs hwf n

/-- the same, replaying the log on any well-formed tree (not necessarily the one the run started from) -/
theorem C04_wf_prefix_any (H : Bytes → Bytes) (inp : RunIn) (fs : Fs) (hwf : FsWF fs) (n : Nat) :
    FsWF (replay fs ((run H inp).ops.take n)) :=
  RunR.run_wflog H inp fs hwf n

/-- the operation-level statement "every logged operation keeps `FsWF`" is false: the tree has the directory `a/b`
    but not the directory `a` (`FsWF` does not ask directories to be prefix-closed); `openc a/b/c` finds the parent
    and creates the file, whose proper prefix `a` is not a directory -/
theorem C04_openc_alone_breaks_wf :
    ∃ (fs : Fs) (o : Op), FsWF fs ∧ o.kind = .openc ∧ ¬ FsWF (applyOp fs o) :=
  ⟨⟨[], [[[97], [98]]], [], 0⟩, ⟨.openc, [[97], [98], [99]], true⟩, by decide +kernel, rfl, by decide +kernel⟩

/-- `NoAlias` with respect to ANY table `T` (the table of this run, of an earlier run, of a later run) holds at
    every interruption point of a run if it holds in the (well-formed) initial tree: no logged operation binds a
    second name to an inode, and a created file gets the fresh inode `next` (`RunK.SInv.step`, which assumes nothing
    of the operation). The same holds for the replay of any list of operations whatsoever (`RunR.noAl_replay`). -/
theorem C04_noAlias_prefix (H : Bytes → Bytes) (inp : RunIn) (T : List TEntry) (hwf : FsWF inp.fs)
    (hna : NoAlias inp.fs T) (n : Nat) :
    NoAlias (replay inp.fs ((run H inp).ops.take n)) T :=
  RunR.noAl_replay hwf hna _

/-- one step of a history: the input of a run (its `fs` field is ignored: the run starts from the tree the
    previous step left) and a cut point: only the first `cut` operations of the run's log are applied (a crash
    after `cut` operations; `cut ≥` the length of the log means the run completed) -/
structure HStep where
  inp : RunIn
  cut : Nat

/-- the tree one step leaves when started on `fs` -/
def stepTree (H : Bytes → Bytes) (fs : Fs) (s : HStep) : Fs :=
  replay fs ((run H { s.inp with fs := fs }).ops.take s.cut)

/-- the tree a history leaves when started on `fs0` -/
def histTree (H : Bytes → Bytes) (fs0 : Fs) (steps : List HStep) : Fs := steps.foldl (stepTree H) fs0

theorem stepTree_complete (H : Bytes → Bytes) (fs : Fs) (s : HStep)
    (h : (run H { s.inp with fs := fs }).ops.length ≤ s.cut) :
    stepTree H fs s = (run H { s.inp with fs := fs }).fs := by
  unfold stepTree
  rw [List.take_of_length_le h, C11_replay]

theorem histTree_append (H : Bytes → Bytes) (fs0 : Fs) (a b : List HStep) :
    histTree H fs0 (a ++ b) = histTree H (histTree H fs0 a) b := by
  unfold histTree; rw [List.foldl_append]

/-- `w` is foreign to a table: no non-padding segment of `w` has the export image of a non-padding table entry -/
def Foreign (w : Work) (table : List TEntry) : Prop :=
  ∀ s ∈ w.segs, s.ent.isPad = false → ∀ e ∈ table, e.isPad = false → e.fullTarget ≠ s.ent.fullTarget

/-- `w` is one of the work items of the run with input `inp`, whatever tree that run starts from: some member of
    `work0 inp` has the same segment ranges, export images and piece hash (`Work.img`, exactly what `VerE` looks at).
    Entry ids (which depend on which other torrents are loaded in the same run) and candidate lists (which depend
    on the tree) are not compared, so one and the same piece of a torrent is a work item of every step that loads the
    torrent with the same export directory. -/
def IsWorkOf (w : Work) (inp : RunIn) : Prop := ∃ w' ∈ work0 inp, w'.img = w.img

/-- the tree-independent side conditions of `C04_run_preserved` for the run with input `inp`, stated for `table0`
    and `work0` (functions of the export directory and the torrents; `TB.Lemmas.RunR`): facts of the layout (C06)
    and of the hash.
    * `range`: every segment lies inside its file;
    * `same`:  non-padding entries with the same export image declare the same length (false for a torrent that
               lists a path twice with different lengths, finding D6; without it `C04_run_preserved` is false:
               `C04_run_preserved_needs_hsame`);
    * `disj`:  `RangesDisjoint`;
    * `inj`:   collision-freedom of `H` on the buffers of these pieces. -/
structure LayoutOk (H : Bytes → Bytes) (inp : RunIn) : Prop where
  range : ∀ w ∈ work0 inp, SegsInRange w
  same : ∀ e ∈ table0 inp, ∀ f ∈ table0 inp, e.isPad = false → f.isPad = false →
    e.fullTarget = f.fullTarget → e.fileLength = f.fileLength
  disj : RangesDisjoint (work0 inp)
  inj : HInjOn H (work0 inp)

theorem LayoutOk.withFs {H : Bytes → Bytes} {inp : RunIn} (h : LayoutOk H inp) (fs : Fs) :
    LayoutOk H { inp with fs := fs } :=
  ⟨h.range, h.same, h.disj, h.inj⟩

/-- every work item of an actual run, on whatever tree, is a work item in the sense of `IsWorkOf` (it is, up to the
    candidate lists of its entries, a member of `work0`); every table entry of an actual run is, up to its candidate
    list, a member of `table0`; and whether a piece verifies depends on `Work.img` only. This ties the pieces
    `C04_history` speaks of to the work items of the runs. -/
theorem work0_covers (H : Bytes → Bytes) (inp : RunIn) :
    (∀ w ∈ (run H inp).work, IsWorkOf w inp) ∧
    (∀ e ∈ (run H inp).table, e.strip ∈ table0 inp) ∧
    (∀ fs w w', w'.img = w.img → (VerE H fs w' ↔ VerE H fs w)) :=
  ⟨fun w hw => ⟨w.strip, RunR.run_work_strip_mem H inp w hw, RunR.img_strip w⟩, RunR.run_table_strip H inp,
    fun fs _ _ h => RunR.verE_img H fs h⟩

theorem IsWorkOf.withFs {w : Work} {inp : RunIn} (h : IsWorkOf w inp) (fs : Fs) : IsWorkOf w { inp with fs := fs } := h

theorem histTree_wf (H : Bytes → Bytes) (steps : List HStep) :
    ∀ fs0, FsWF fs0 → FsWF (histTree H fs0 steps) := by
  induction steps with
  | nil => intro fs0 h; exact h
  | cons s rest ih =>
    intro fs0 h
    exact ih _ (RunR.run_wflog H _ fs0 h s.cut)

theorem histTree_noAlias (H : Bytes → Bytes) (T : List TEntry) (steps : List HStep) :
    ∀ fs0, FsWF fs0 → NoAlias fs0 T → NoAlias (histTree H fs0 steps) T := by
  induction steps with
  | nil => intro fs0 _ h; exact h
  | cons s rest ih =>
    intro fs0 hwf h
    exact ih _ (RunR.run_wflog H _ fs0 hwf s.cut) (RunR.noAl_replay hwf h _)

/-- a verifying piece that is a work item for `inp` or foreign to its table keeps verifying, on any well-formed tree,
    along any operations that satisfy `RunJ.OpFact` for `work0 inp` and `table0 inp` (as those of a run on `inp` started
    on whatever tree do, `RunR.run_opFact0`) -/
theorem C04_ops (H : Bytes → Bytes) (inp : RunIn) (fs : Fs) (w : Work) (hwf : FsWF fs)
    (hna : NoAlias fs (table0 inp))
    (hdich : (IsWorkOf w inp ∧ LayoutOk H inp) ∨ Foreign w (table0 inp))
    (hver : VerE H fs w) (ops : List Op) (hops : ∀ o ∈ ops, RunJ.OpFact H (work0 inp) (table0 inp) o) :
    VerE H (replay fs ops) w := by
  rcases hdich with ⟨⟨w', hw', himg⟩, lay⟩ | hf
  · rw [← RunR.verE_img H _ himg] at hver ⊢
    exact RunK.preserved hwf hna lay.same lay.disj lay.inj hw' (lay.range w' hw') (RunR.work0_ent inp w' hw') hver ops
      hops
  · exact RunK.foreign_preserved hwf hna hf hver ops hops

/-- one step: a verifying piece that is a work item of the step or foreign to its table still verifies in the tree
    the step leaves, wherever the step is cut -/
theorem C04_step (H : Bytes → Bytes) (fs : Fs) (s : HStep) (w : Work) (hwf : FsWF fs)
    (hna : NoAlias fs (table0 s.inp))
    (hdich : (IsWorkOf w s.inp ∧ LayoutOk H s.inp) ∨ Foreign w (table0 s.inp))
    (hver : VerE H fs w) : VerE H (stepTree H fs s) w :=
  C04_ops H s.inp fs w hwf hna hdich hver _
    (fun o h => RunR.run_opFact0 H { s.inp with fs := fs } o (List.mem_of_mem_take h))

/-- C04 over a history: a piece `w` that verifies in the initial tree `fs0` verifies in the tree left by ANY
    history of runs started on `fs0` — any torrent subsets, scan directories, export directories, resize flags,
    candidate orders, evaluation orders and fault points (all fields of each step's `RunIn`), each run interrupted
    after any number of operations (`cut`).

    There is NO hypothesis about intermediate trees. Assumed:
    * `hwf`  — the initial tree is well-formed: a hypothesis of `C04_run_preserved` already (for its fourth clause
               see `RunFCex`); the intermediate trees are well-formed by `C04_wf_prefix`.
    * `hna`  — in the INITIAL tree no export image of any step's table shares its inode with another name (no hard
               links into the export trees; DESIGN §8). Needed by `C04_run_preserved`/`C04_run_foreign_preserved`
               for the tree each run starts from; derived for the intermediate trees by `C04_noAlias_prefix` (this
               is why it is stated for the tables of ALL steps on `fs0`: a link present from the start would be
               harmless until the step whose table contains the image).
               The tables are `table0` (before candidate lists are filled in), which has the same images as the
               run's table on whatever tree (`work0_covers`).
    * `hdich` — the DICHOTOMY, for every step: `w` is one of the step's own work items (`IsWorkOf`: a piece of a
               torrent loaded in that step with the same export directory; compared by ranges, images and hash,
               not by entry ids or candidate lists — every work item of an actual run qualifies, `work0_covers`)
               and then the layout/hash facts `LayoutOk` hold for that step; or `w` is foreign to the step's table
               (none of its images is an image of the step).
               The dichotomy cannot be dropped: a step whose table contains an image of `w` under a different
               piece layout or hash may overwrite it (`C04_history_needs_dichotomy` below).
    `LayoutOk` is tree-independent; it is only required of the steps that have `w` among their work items.

    Proof: induction on the history; `FsWF` and `NoAlias` are carried along by `RunR.run_wflog` and
    `RunR.noAl_replay`; each step is `C04_step`, i.e. `RunK.preserved` / `RunK.foreign_preserved` (the theorems behind
    `C04_run_preserved` / `C04_run_foreign_preserved`) with `table0`/`work0` in place of the run's table and work list
    (`RunR.run_opFact0`: every operation of a run satisfies `RunJ.OpFact` with respect to them). The two theorems
    of `TB.Props.C04h` are not applied literally because their hypotheses mention the run's own table and work
    list, which depend on the intermediate tree, and because a run that stops in the resize pre-flight has an empty
    work list but has already extended export files. -/
theorem C04_history (H : Bytes → Bytes) (fs0 : Fs) (steps : List HStep) (w : Work)
    (hwf : FsWF fs0)
    (hna : ∀ s ∈ steps, NoAlias fs0 (table0 s.inp))
    (hdich : ∀ s ∈ steps, (IsWorkOf w s.inp ∧ LayoutOk H s.inp) ∨ Foreign w (table0 s.inp))
    (hver : VerE H fs0 w) :
    VerE H (histTree H fs0 steps) w := by
  induction steps generalizing fs0 with
  | nil => exact hver
  | cons s rest ih =>
    have hwf1 : FsWF (stepTree H fs0 s) := RunR.run_wflog H _ fs0 hwf s.cut
    refine ih (stepTree H fs0 s) hwf1 ?_ (fun s' hs' => hdich s' (List.mem_cons_of_mem _ hs')) ?_
    · intro s' hs'
      exact RunR.noAl_replay hwf (hna s' (List.mem_cons_of_mem _ hs')) _
    · exact C04_step H fs0 s w hwf (hna s List.mem_cons_self) (hdich s List.mem_cons_self) hver

theorem List.take_eq_take_append {α : Type} (l : List α) {j k : Nat} (h : j ≤ k) :
    l.take k = l.take j ++ (l.take k).drop j := by
  have := (List.take_append_drop j (l.take k)).symm
  rwa [List.take_take, Nat.min_eq_left h] at this

/-- inside one run: a piece (own or foreign) that verifies at some interruption point verifies at every later one.
    (`C04_run_preserved` is the case `n₁ = 0`; this also covers pieces the run itself has just completed.) -/
theorem C04_run_monotone (H : Bytes → Bytes) (inp : RunIn) (w : Work) (hwf : FsWF inp.fs)
    (hna : NoAlias inp.fs (table0 inp))
    (hdich : (IsWorkOf w inp ∧ LayoutOk H inp) ∨ Foreign w (table0 inp))
    (n₁ n₂ : Nat) (hle : n₁ ≤ n₂)
    (hver : VerE H (replay inp.fs ((run H inp).ops.take n₁)) w) :
    VerE H (replay inp.fs ((run H inp).ops.take n₂)) w := by
  rw [List.take_eq_take_append _ hle, replay_append]
  have hwf1 := RunR.run_wflog H inp inp.fs hwf n₁
  have hna1 : NoAlias (replay inp.fs ((run H inp).ops.take n₁)) (table0 inp) := RunR.noAl_replay hwf hna _
  exact C04_ops H inp _ w hwf1 hna1 hdich hver _
    (fun o h => RunR.run_opFact0 H inp o (List.mem_of_mem_take (List.mem_of_mem_drop h)))

/-- over any history the set of verifying pieces (among a list `ws` of pieces each of which satisfies the dichotomy
    at every step) only grows: what verifies after the first `j` steps verifies after the first `k ≥ j` steps.
    Hypotheses as in `C04_history`, on the initial tree and on tree-independent data only. Since every step carries
    its own cut point, "after `j` steps" ranges over all instants at which a run stops; for two instants inside
    one run see `C04_run_monotone`, and for an instant inside a step followed by the rest of the history
    `C04_history_monotone_cut`. -/
theorem C04_history_monotone (H : Bytes → Bytes) (fs0 : Fs) (steps : List HStep) (ws : List Work)
    (hwf : FsWF fs0)
    (hna : ∀ s ∈ steps, NoAlias fs0 (table0 s.inp))
    (hdich : ∀ w ∈ ws, ∀ s ∈ steps, (IsWorkOf w s.inp ∧ LayoutOk H s.inp) ∨ Foreign w (table0 s.inp))
    (j k : Nat) (hjk : j ≤ k) :
    ∀ w ∈ ws, VerE H (histTree H fs0 (steps.take j)) w → VerE H (histTree H fs0 (steps.take k)) w := by
  intro w hw hver
  have hsub : ∀ s ∈ (steps.take k).drop j, s ∈ steps := fun _ h => List.mem_of_mem_take (List.mem_of_mem_drop h)
  rw [List.take_eq_take_append _ hjk, histTree_append]
  refine C04_history H _ _ w (histTree_wf H _ fs0 hwf) ?_ (fun s hs => hdich w hw s (hsub s hs)) hver
  intro s hs
  exact histTree_noAlias H _ _ fs0 hwf (hna s (hsub s hs))

/-- the finest form: the history `pre ++ s :: post`; a piece that verifies at the instant when step `s` has applied
    `n ≤ s.cut` operations verifies when the whole history is over -/
theorem C04_history_monotone_cut (H : Bytes → Bytes) (fs0 : Fs) (pre post : List HStep) (s : HStep) (w : Work)
    (hwf : FsWF fs0)
    (hna : ∀ s' ∈ pre ++ s :: post, NoAlias fs0 (table0 s'.inp))
    (hdich : ∀ s' ∈ s :: post, (IsWorkOf w s'.inp ∧ LayoutOk H s'.inp) ∨ Foreign w (table0 s'.inp))
    (n : Nat) (hn : n ≤ s.cut)
    (hver : VerE H (histTree H fs0 (pre ++ [⟨s.inp, n⟩])) w) :
    VerE H (histTree H fs0 (pre ++ s :: post)) w := by
  rw [histTree_append] at hver ⊢
  have hwfA := histTree_wf H pre fs0 hwf
  have hnaA : ∀ s' ∈ s :: post, NoAlias (histTree H fs0 pre) (table0 s'.inp) :=
    fun s' hs' => histTree_noAlias H _ pre fs0 hwf (hna s' (List.mem_append_right _ hs'))
  show VerE H (histTree H (stepTree H (histTree H fs0 pre) s) post) w
  have h1 : VerE H (stepTree H (histTree H fs0 pre) s) w :=
    C04_run_monotone H { s.inp with fs := histTree H fs0 pre } w hwfA (hnaA s List.mem_cons_self)
      ((hdich s List.mem_cons_self).imp (fun h => ⟨h.1.withFs _, h.2.withFs _⟩) id) n s.cut hn hver
  refine C04_history H _ post w (RunR.run_wflog H _ _ hwfA s.cut) ?_
    (fun s' hs' => hdich s' (List.mem_cons_of_mem _ hs')) h1
  intro s' hs'
  exact RunR.noAl_replay hwfA (hnaA s' (List.mem_cons_of_mem _ hs')) _

/-! ### a concrete history satisfying all hypotheses (`H = id`) -/

/-- `LayoutOk` for `H = id`, from the evaluated table and work list, in a form `decide` can check -/
theorem LayoutOk.of_check {inp : RunIn} {ws : List Work} {T : List TEntry} (hw : work0 inp = ws) (ht : table0 inp = T)
    (range : ∀ w ∈ ws, SegsInRange w) (same : RunJ.SameLen T) (disj : RangesDisjoint ws) : LayoutOk id inp := by
  subst hw ht
  exact ⟨range, same, disj, HInjOn_id _⟩

namespace C04hist.Ex

def ihA : Bytes := [0xAB]
def ihB : Bytes := [0xCD]
def nmA : Bytes := [97]
def nmB : Bytes := [98]
def eDir : Path := [[101]]
def sDir : Path := [[115]]
def imgA : Path := eDir ++ [hex ihA, sData, nmA]
def imgB : Path := eDir ++ [hex ihB, sData, nmB]

/-- torrent A: one file `a` of length 2, one piece `[1, 2]`; torrent B: one file `b` of length 1, one piece `[3]` -/
def torA : Torrent := ⟨⟨nmA, some 2, none, 2, [[1, 2]]⟩, ihA⟩
def torB : Torrent := ⟨⟨nmB, some 1, none, 1, [[3]]⟩, ihB⟩

/-- the image of A exists and is complete; the scan directory holds `s/1 = [3]`, the content of B -/
def fs0 : Fs :=
  { files := [(imgA, 0), (sDir ++ [[49]], 1)],
    dirs := [eDir, sDir, eDir ++ [hex ihA], eDir ++ [hex ihA, sData]],
    data := [(0, [1, 2]), (1, [3])],
    next := 2 }

/-- step 1 loads B only and completes; step 2 loads A and B with the resize pre-flight and crashes after 4
    operations. The `fs` fields are ignored. -/
def inp1 : RunIn :=
  { fs := default, torrents := [torB], scan := [⟨true, sDir⟩], exportDir := ⟨true, eDir⟩, resize := false,
    searchObs := [], order := [], faults := [] }
def inp2 : RunIn :=
  { fs := default, torrents := [torA, torB], scan := [⟨true, sDir⟩], exportDir := ⟨true, eDir⟩, resize := true,
    searchObs := [], order := [], faults := [] }
def steps : List HStep := [⟨inp1, 1000⟩, ⟨inp2, 4⟩]

def eA : TEntry := ⟨0, ihA, 0, 2, imgA, [nmA], false, none⟩
def eB1 : TEntry := ⟨0, ihB, 0, 1, imgB, [nmB], false, none⟩
def eB2 : TEntry := ⟨1, ihB, 0, 1, imgB, [nmB], false, none⟩
def wA : Work := ⟨[⟨2, 0, eA⟩], [1, 2]⟩
def wB1 : Work := ⟨[⟨1, 0, eB1⟩], [3]⟩
def wB2 : Work := ⟨[⟨1, 0, eB2⟩], [3]⟩

theorem table1 : table0 inp1 = [eB1] := by decide +kernel
theorem work1 : work0 inp1 = [wB1] := by decide +kernel
theorem table2 : table0 inp2 = [eA, eB2] := by decide +kernel
theorem work2 : work0 inp2 = [wA, wB2] := by decide +kernel

/-- what is evaluated about the two steps, in one evaluation (each of these facts runs step 1) -/
theorem evaluated :
    ((run id { inp1 with fs := fs0 }).ops.filter (fun o => o.kind.mutating)).map (fun o => (o.kind, o.path))
      = [(.mkdirs, eDir ++ [hex ihB, sData]), (.openc, imgB), (.setlen 1, imgB), (.write 0 [3], imgB)] ∧
    4 < (run id { inp2 with fs := stepTree id fs0 ⟨inp1, 1000⟩ }).ops.length ∧
    VerE id (histTree id fs0 (steps.take 1)) wB1 := by decide +kernel

/-- step 1 really writes (the image of B is created and filled), step 2 really is cut short -/
example : ((run id { inp1 with fs := fs0 }).ops.filter (fun o => o.kind.mutating)).map (fun o => (o.kind, o.path))
    = [(.mkdirs, eDir ++ [hex ihB, sData]), (.openc, imgB), (.setlen 1, imgB), (.write 0 [3], imgB)] := evaluated.1
example : 4 < (run id { inp2 with fs := stepTree id fs0 ⟨inp1, 1000⟩ }).ops.length := evaluated.2.1

theorem wf : FsWF fs0 := by decide +kernel

theorem forall_steps {P : HStep → Prop} (h1 : P ⟨inp1, 1000⟩) (h2 : P ⟨inp2, 4⟩) : ∀ s ∈ steps, P s :=
  List.forall_mem_cons.2 ⟨h1, List.forall_mem_singleton.2 h2⟩

theorem hna : ∀ s ∈ steps, NoAlias fs0 (table0 s.inp) :=
  forall_steps (by rw [table1]; exact RunJ.NoAl.of_check _ _ (by decide +kernel))
    (by rw [table2]; exact RunJ.NoAl.of_check _ _ (by decide +kernel))

theorem layout2 : LayoutOk id inp2 :=
  .of_check work2 table2 (by decide +kernel) (by decide +kernel)
    (RunK.Disj.of_check (by decide +kernel) (by decide +kernel))

theorem foreign1 : Foreign wA (table0 inp1) := by
  rw [table1]
  unfold Foreign
  decide +kernel

theorem layout1 : LayoutOk id inp1 :=
  .of_check work1 table1 (by decide +kernel) (by decide +kernel)
    (RunK.Disj.of_check (by decide +kernel) (by decide +kernel))

/-- the piece of A: foreign to step 1, a work item of step 2 -/
theorem hdichA : ∀ s ∈ steps, (IsWorkOf wA s.inp ∧ LayoutOk id s.inp) ∨ Foreign wA (table0 s.inp) :=
  forall_steps (Or.inr foreign1) (Or.inl ⟨⟨wA, by rw [work2]; exact List.mem_cons_self, rfl⟩, layout2⟩)

/-- the piece of B: a work item of both steps, although its entry has id 0 in step 1 and id 1 in step 2 -/
theorem hdichB : ∀ s ∈ steps, (IsWorkOf wB1 s.inp ∧ LayoutOk id s.inp) ∨ Foreign wB1 (table0 s.inp) :=
  forall_steps (Or.inl ⟨⟨wB1, by rw [work1]; exact List.mem_cons_self, rfl⟩, layout1⟩)
    (Or.inl ⟨⟨wB2, by rw [work2]; exact List.mem_cons_of_mem _ List.mem_cons_self, rfl⟩, layout2⟩)

theorem wA_ver : VerE id fs0 wA := by decide +kernel

/-- non-vacuity of `C04_history`: all hypotheses hold in this world -/
example : VerE id (histTree id fs0 steps) wA := C04_history id fs0 steps wA wf hna hdichA wA_ver

/-- non-vacuity of `C04_history_monotone`, with the set of verifying pieces really growing: the piece of B does not
    verify at the start, verifies after step 1 (the run found it), and therefore after step 2 -/
example : wB1.segs.mapM (segBytesIn fs0) = none := by decide +kernel
theorem wB1_ver1 : VerE id (histTree id fs0 (steps.take 1)) wB1 := evaluated.2.2
example : VerE id (histTree id fs0 (steps.take 2)) wB1 :=
  C04_history_monotone id fs0 steps [wA, wB1] wf hna
    (List.forall_mem_cons.2 ⟨hdichA, List.forall_mem_singleton.2 hdichB⟩) 1 2 (by omega) wB1 (List.mem_cons_of_mem _ List.mem_cons_self) wB1_ver1

end C04hist.Ex

/-! ### the hypotheses cannot be dropped (`H = id`) -/

namespace C04hist.Cex
open C04hist.Ex

/-- a torrent with the info-hash and the name of A, hence the same export image, but another piece hash -/
def torA' : Torrent := ⟨⟨nmA, some 2, none, 2, [[3, 4]]⟩, ihA⟩

def fsD : Fs :=
  { files := [(imgA, 0), (sDir ++ [[49]], 1)],
    dirs := [eDir, sDir, eDir ++ [hex ihA], eDir ++ [hex ihA, sData]],
    data := [(0, [1, 2]), (1, [3, 4])],
    next := 2 }
def inpD : RunIn :=
  { fs := default, torrents := [torA'], scan := [⟨true, sDir⟩], exportDir := ⟨true, eDir⟩, resize := false,
    searchObs := [], order := [], faults := [] }
def wA' : Work := ⟨[⟨2, 0, eA⟩], [3, 4]⟩

theorem tableD : table0 inpD = [eA] := by decide +kernel
theorem workD : work0 inpD = [wA'] := by decide +kernel

theorem wfD : FsWF fsD := by decide +kernel

theorem noAliasD : NoAlias fsD (table0 inpD) := by
  rw [tableD]; exact RunJ.NoAl.of_check _ _ (by decide +kernel)

theorem layoutD : LayoutOk id inpD :=
  .of_check workD tableD (by decide +kernel) (by decide +kernel)
    (RunK.Disj.of_check (by decide +kernel) (by decide +kernel))

theorem wA_verD : VerE id fsD wA := by decide +kernel

theorem wA_not_verD : ¬ VerE id (histTree id fsD [⟨inpD, 1000⟩]) wA := by decide +kernel

/-- the world of the second counterexample: the image of B is a hard link to the image of A -/
def fsL : Fs :=
  { files := [(imgA, 0), (imgB, 0), (sDir ++ [[49]], 1)],
    dirs := [eDir, sDir, eDir ++ [hex ihA], eDir ++ [hex ihA, sData], eDir ++ [hex ihB], eDir ++ [hex ihB, sData]],
    data := [(0, [1, 2]), (1, [3, 4])],
    next := 2 }
/-- a torrent whose only file `b` has length 2 and content `[3, 4]` -/
def torB' : Torrent := ⟨⟨nmB, some 2, none, 2, [[3, 4]]⟩, ihB⟩
def inpL : RunIn :=
  { fs := default, torrents := [torB'], scan := [⟨true, sDir⟩], exportDir := ⟨true, eDir⟩, resize := false,
    searchObs := [], order := [], faults := [] }
def eB' : TEntry := ⟨0, ihB, 0, 2, imgB, [nmB], false, none⟩

theorem tableL : table0 inpL = [eB'] := by decide +kernel

theorem wfL : FsWF fsL := by decide +kernel

theorem foreignL : Foreign wA (table0 inpL) := by
  rw [tableL]
  unfold Foreign
  decide +kernel

theorem wA_verL : VerE id fsL wA := by decide +kernel

theorem wA_not_verL : ¬ VerE id (histTree id fsL [⟨inpL, 1000⟩]) wA := by decide +kernel

end C04hist.Cex

/-- `C04_history` without the dichotomy is false, even with `LayoutOk` for every step. World (`H = id`): the image
    of torrent A holds `[1, 2]` and verifies; the one step loads only a torrent A′ with the info-hash and name of A — hence
    the same export image — whose piece hash is `[3, 4]`, and the scan directory holds `[3, 4]`. The run finds the
    piece of A′ and writes it over the image. The piece of A is neither a member of the step's `work0` (other hash)
    nor foreign to its table (same image). `FsWF`, `NoAlias` and `LayoutOk` hold. -/
theorem C04_history_needs_dichotomy :
    ¬ (∀ (H : Bytes → Bytes) (fs0 : Fs) (steps : List HStep) (w : Work), FsWF fs0 →
        (∀ s ∈ steps, NoAlias fs0 (table0 s.inp)) → (∀ s ∈ steps, LayoutOk H s.inp) →
        VerE H fs0 w → VerE H (histTree H fs0 steps) w) := by
  intro h
  exact C04hist.Cex.wA_not_verD (h id C04hist.Cex.fsD [⟨C04hist.Cex.inpD, 1000⟩] C04hist.Ex.wA C04hist.Cex.wfD
    (List.forall_mem_singleton.2 C04hist.Cex.noAliasD) (List.forall_mem_singleton.2 C04hist.Cex.layoutD)
    C04hist.Cex.wA_verD)

/-- `C04_history` without `hna` is false. World (`H = id`): the export image of B is a hard link to the verifying
    image of A (`[1, 2]`); the one step loads only B (length 2, piece `[3, 4]`, found in the scan directory) and
    writes it to its image, that is, into the inode of A's image. The piece of A is foreign to the step (different
    paths), the tree is well-formed; `NoAlias` for the step's table fails in the initial tree. -/
theorem C04_history_needs_noAlias :
    ¬ (∀ (H : Bytes → Bytes) (fs0 : Fs) (steps : List HStep) (w : Work), FsWF fs0 →
        (∀ s ∈ steps, (IsWorkOf w s.inp ∧ LayoutOk H s.inp) ∨ Foreign w (table0 s.inp)) →
        VerE H fs0 w → VerE H (histTree H fs0 steps) w) := by
  intro h
  exact C04hist.Cex.wA_not_verL (h id C04hist.Cex.fsL [⟨C04hist.Cex.inpL, 1000⟩] C04hist.Ex.wA C04hist.Cex.wfL
    (List.forall_mem_singleton.2 (Or.inr C04hist.Cex.foreignL)) C04hist.Cex.wA_verL)

end TB
