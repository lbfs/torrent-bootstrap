/-
  C10 — a torrent loads iff it is well-formed, and the loaded fields are faithful.
  Property theorems only; helper lemmas live in TB/Lemmas/Torrent.lean.
-/
import TB.Model.Torrent
import TB.Spec.MetainfoSpec
import TB.Props.C08
import TB.Lemmas.Torrent
namespace TB

/-- a byte string loads as a torrent iff it is the canonical encoding of a value that the declarative
    specification `specLoad` (TB.Spec.MetainfoSpec) accepts, and then the loaded record is exactly the
    record the specification reads off that value (name/lengths/paths/piece length/hashes; info-hash =
    hash of the canonical encoding of the info value) -/
theorem C10_iff (H : Bytes → Bytes) (inp : Bytes) (T : Torrent) :
    load H inp = .ok T ↔ ∃ v, canon v = true ∧ encode v = inp ∧ specLoad H v = some T := by
  constructor
  · intro h
    obtain ⟨rks, rvs, s0, c0, iks, ivs, s, c, info, _, hcan, henc, hf, _, _, hsl, hs, rfl⟩ := load_ok_struct h
    refine ⟨.dict (eraseDict rks rvs), hcan, henc, ?_⟩
    simp only [specLoad, dictGet_eraseDict, hf, Option.map_some, erase, hs, hsl]
  · rintro ⟨v, hc, rfl, hs⟩
    obtain ⟨t, hd, het⟩ := C08_complete v hc
    rw [load_eq, hd]
    dsimp only
    rw [het, hs]
    rfl

/-- input that is not the canonical encoding of a value is refused with an error (not a panic) -/
theorem C10_rejects_noncanonical (H : Bytes → Bytes) (inp : Bytes)
    (h : ¬ ∃ v, canon v = true ∧ encode v = inp) : load H inp = .err := by
  rw [load_eq]
  cases hd : decode inp with
  | ok t => exact absurd ((C08_accepts_iff inp).1 ⟨t, hd⟩) h
  | err => rfl
  | panic => exact absurd hd (C08_no_panic inp)

/-- lookups are by exact key: the value returned for `key` is the value of the first entry whose key equals
    `key` byte for byte; entries with other keys (prefixes, extensions, neighbours in sort order) are inert -/
theorem C10_exactkey (ks : List StrTok) (vs : List Tok) (key : Bytes) (v : Tok)
    (h : findValue ks vs key = some v) :
    ∃ i, ∃ (hk : i < ks.length) (hv : i < vs.length), ks[i].val = key ∧ vs[i] = v ∧
      ∀ j (hj : j < i), (ks[j]'(by omega)).val ≠ key := by
  induction ks generalizing vs with
  | nil => simp [findValue] at h
  | cons k ks ih =>
    cases vs with
    | nil => simp [findValue] at h
    | cons w ws =>
      simp only [findValue] at h
      split at h
      · rename_i hk
        cases h
        exact ⟨0, by simp, by simp, hk, rfl, fun j hj => absurd hj (Nat.not_lt_zero j)⟩
      · rename_i hk
        obtain ⟨i, hi1, hi2, h1, h2, h3⟩ := ih ws h
        refine ⟨i + 1, by simp only [List.length_cons]; omega, by simp only [List.length_cons]; omega, ?_, ?_, ?_⟩
        · simpa using h1
        · simpa using h2
        · intro j hj
          cases j with
          | zero => simpa using hk
          | succ j => simpa using h3 j (by omega)

theorem C10_exactkey_none (ks : List StrTok) (vs : List Tok) (key : Bytes)
    (hlen : ks.length = vs.length) (h : findValue ks vs key = none) :
    ∀ k ∈ ks, k.val ≠ key := by
  induction ks generalizing vs with
  | nil => intro k hk; cases hk
  | cons k0 ks ih =>
    cases vs with
    | nil => simp at hlen
    | cons w ws =>
      simp only [findValue] at h
      split at h
      · cases h
      · rename_i hk0
        intro k hk
        rcases List.mem_cons.1 hk with rfl | hk
        · exact hk0
        · exact ih ws (by simpa using hlen) h k hk

/-- what a loaded record always satisfies (used by C06/C12/C03): the relation between total length, piece
    length and number of hashes; non-empty file list; plain names -/
theorem C10_loaded_wf (H : Bytes → Bytes) (inp : Bytes) (T : Torrent) (h : load H inp = .ok T) :
    utf8Valid T.info.name = true ∧ plainComponent T.info.name = true
    ∧ (∀ hsh ∈ T.info.pieces, hsh.length = 20)
    ∧ T.info.pieceLength ≤ u64Max
    ∧ ((∃ l, T.info.length = some l ∧ T.info.files = none ∧ l ≤ u64Max
          ∧ pieceCountOk l T.info.pieceLength T.info.pieces.length = true)
       ∨ (∃ fs, T.info.length = none ∧ T.info.files = some fs ∧ fs ≠ []
          ∧ (∀ f ∈ fs, f.length ≤ u64Max ∧ f.path ≠ [] ∧ ∀ c ∈ f.path, utf8Valid c = true ∧ plainComponent c = true)
          ∧ pieceCountOk ((fs.map (·.length)).sum) T.info.pieceLength T.info.pieces.length = true)) := by
  obtain ⟨_, _, _, _, iks, ivs, _, _, info, _, _, _, _, _, _, _, hs, rfl⟩ := load_ok_struct h
  exact specInfo_wf hs

end TB
