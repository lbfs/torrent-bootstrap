/-
  TB.Props.C05ops — critical sections of different workers interleaved at the granularity of single file operations.

  `C05writes` treats a whole critical section (`Fs.crit`: create_dir_all; open; set_len; write) as ONE atomic step.
  In the tool only sections on the SAME file exclude one another (per-file lock); sections of different workers on
  DIFFERENT files interleave at the granularity of single file operations. Here: the op-level machine
  (`Thr.step`, `runSched`, TB.Lemmas.RunOps), and the theorems that this finer interleaving changes nothing.

  Hypotheses of the three main theorems (`C05_ops_no_failure`, `C05_ops_any_interleaving`, `C05_ops_completes`): the starting tree is well-formed; the sections have pairwise different
  targets and are pairwise `SecComp` (writes inside the declared length; existing targets do not share an inode);
  the sequential execution `fs.crits secs` succeeds.
  Proof: an invariant (`RunOps.Inv`) relating every reachable op-level state to the starting tree, kept by every
  single operation (`RunOps.inv_step`); two reachable states with all workers `.done` have the same `view`
  (`RunOps.view_eq_of_done`); the sequential execution is itself a schedule (`RunOps.run_seq`).
-/
import TB.Lemmas.RunOps
import TB.Props.C05writes
namespace TB
open TB.RunX TB.RunOps

/-- ONE worker, run four times from `.mk`, is exactly the atomic critical section `Fs.crit` -/
theorem C05_ops_one_thread (fs : Fs) (s : Sec) (r : Fs) :
    fs.crit s.t s.L s.off s.d = some r ↔ runSched fs [⟨s, .mk⟩] [0, 0, 0, 0] = (r, [⟨s, .done⟩]) :=
  crit_iff_run fs s r [] []

/-- WHY the per-file lock is needed: two sections on the SAME target with different declared lengths
    (`A = (tx, L 1, off 0, [5])`, `B = (tx, L 3, off 1, [7])`), interleaved at operation level
    (`B.set_len 3; A.set_len 1; B.write; A.write`), leave `[5, 7]` in the file, while `A; B` leaves `[5, 7, 0]` and
    `B; A` leaves `[5]`: the result of the interleaving differs from BOTH sequential orders.
    (For EQUAL `L` and both writes inside `L` there is no such counterexample: `set_len L` is idempotent and commutes
    with a write inside `L` (`C05_setLen_idem`, `C05_setLen_writeAt_commute`), so an interleaving leaves what the
    sequential order with the same order of the two writes leaves. This remark is not proved here.) -/
theorem C05_ops_same_target_cex :
    let fs0 : Fs := ⟨[], [], [], 0⟩
    let tx : Path := [[100], [120]]
    let A : Sec := ⟨tx, 1, 0, [5]⟩
    let B : Sec := ⟨tx, 3, 1, [7]⟩
    let fin := runSched fs0 (initThrs [A, B]) [0, 1, 0, 1, 1, 0, 1, 0]
    (∀ th ∈ fin.2, th.pc = .done) ∧
    fin.1.content 0 = [5, 7] ∧
    (∃ r, fs0.crits [A, B] = some r ∧ r.inoOf tx = some 0 ∧ r.content 0 = [5, 7, 0] ∧ ¬ ObsEq fin.1 r) ∧
    (∃ r, fs0.crits [B, A] = some r ∧ r.inoOf tx = some 0 ∧ r.content 0 = [5] ∧ ¬ ObsEq fin.1 r) := by
  intro fs0 tx A B fin
  have hfin : fin = (⟨[(tx, 0)], [[[100]]], [(0, [5, 7])], 1⟩, [⟨A, .done⟩, ⟨B, .done⟩]) := by decide +kernel
  have h1 : fs0.crits [A, B] = some ⟨[(tx, 0)], [[[100]]], [(0, [5, 7, 0])], 1⟩ := by decide +kernel
  have h2 : fs0.crits [B, A] = some ⟨[(tx, 0)], [[[100]]], [(0, [5])], 1⟩ := by decide +kernel
  rw [hfin]
  refine ⟨by decide +kernel, by decide +kernel, ⟨_, h1, by decide +kernel, by decide +kernel, ?_⟩,
    ⟨_, h2, by decide +kernel, by decide +kernel, ?_⟩⟩
  · intro h
    exact absurd (h.2.2.1 tx 0 0 (by decide +kernel) (by decide +kernel)) (by decide +kernel)
  · intro h
    exact absurd (h.2.2.1 tx 0 0 (by decide +kernel) (by decide +kernel)) (by decide +kernel)

/-- NO FAILURE: under the hypotheses, for every schedule, no worker is ever `.failed` — every `create_dir_all`
    and every open succeeds, whatever the other workers have done in between -/
theorem C05_ops_no_failure (fs : Fs) (hwf : FsWF fs) (secs : List Sec) (r : Fs)
    (hd : secs.Pairwise (fun a b => a.t ≠ b.t)) (hc : secs.Pairwise (SecComp fs))
    (hr : fs.crits secs = some r) (sched : List Nat) :
    ∀ th ∈ (runSched fs (initThrs secs) sched).2, th.pc ≠ .failed :=
  let H := hyp_of_seq hwf hd hc hr
  (inv_run H sched (inv_init H)).nofail

/-- ANY INTERLEAVING: every schedule after which every worker is `.done` leaves a tree observationally equivalent
    to the result `r` of the sequential execution. (Not equal in general: the inode numbers of created files depend
    on the order of the opens; see the example below.) -/
theorem C05_ops_any_interleaving (fs : Fs) (hwf : FsWF fs) (secs : List Sec) (r : Fs)
    (hd : secs.Pairwise (fun a b => a.t ≠ b.t)) (hc : secs.Pairwise (SecComp fs))
    (hr : fs.crits secs = some r) (sched : List Nat)
    (hdone : ∀ th ∈ (runSched fs (initThrs secs) sched).2, th.pc = .done) :
    ObsEq (runSched fs (initThrs secs) sched).1 r := by
  have H := hyp_of_seq hwf hd hc hr
  have I1 := inv_run H sched (inv_init H)
  have I2 := inv_run H (seqSched 0 secs.length) (inv_init H)
  have hs := run_seq secs fs r [] hr
  simp only [List.nil_append, List.length_nil] at hs
  rw [hs] at I2
  refine (obsEq_iff_view _ _).2 (view_eq_of_done H I1 I2 hdone ?_)
  intro th hth
  obtain ⟨s, _, rfl⟩ := List.mem_map.1 hth
  rfl

/-- the same, on the observable parts -/
theorem C05_ops_any_interleaving_view (fs : Fs) (hwf : FsWF fs) (secs : List Sec) (r : Fs)
    (hd : secs.Pairwise (fun a b => a.t ≠ b.t)) (hc : secs.Pairwise (SecComp fs))
    (hr : fs.crits secs = some r) (sched : List Nat)
    (hdone : ∀ th ∈ (runSched fs (initThrs secs) sched).2, th.pc = .done) :
    view (runSched fs (initThrs secs) sched).1 = view r :=
  (obsEq_iff_view _ _).1 (C05_ops_any_interleaving fs hwf secs r hd hc hr sched hdone)

/-- COMPLETION: a schedule in which every worker index occurs at least four times leaves every worker `.done`
    (so `C05_ops_any_interleaving` is not vacuous: every fair-enough schedule qualifies) -/
theorem C05_ops_completes (fs : Fs) (hwf : FsWF fs) (secs : List Sec) (r : Fs)
    (hd : secs.Pairwise (fun a b => a.t ≠ b.t)) (hc : secs.Pairwise (SecComp fs))
    (hr : fs.crits secs = some r) (sched : List Nat)
    (hfair : ∀ k, k < secs.length → 4 ≤ sched.count k) :
    ∀ th ∈ (runSched fs (initThrs secs) sched).2, th.pc = .done := by
  intro th hth
  obtain ⟨k, hk⟩ := List.getElem?_of_mem hth
  obtain ⟨th0, h0, h1⟩ := run_progress sched _ _ k th hk
  have hmk := initThrs_pc th0 (List.mem_of_getElem? h0)
  have h4 := hfair k (by simpa [initThrs] using (List.getElem?_eq_some_iff.1 h0).1)
  have hr4 : 4 ≤ rank th.pc := by
    have : rank SecPc.mk = 0 := rfl
    rw [hmk] at h1
    omega
  have hnf := C05_ops_no_failure fs hwf secs r hd hc hr sched th hth
  cases hp : th.pc <;> rw [hp] at hr4 hnf <;> simp [rank] at hr4 hnf ⊢

open C05w in
/-- the hypotheses are satisfiable and the conclusion is not an equality: two workers, targets `[[100],[120]]` and
    `[[100],[121]]` (both new, same new parent directory), empty tree, worker 1 opens first. All workers finish, the
    tree differs from the sequential result (the inode numbers are exchanged), and it is observationally
    equivalent to it. -/
example :
    let secs : List Sec := [⟨[[100], [120]], 2, 0, [5]⟩, ⟨[[100], [121]], 2, 1, [7]⟩]
    let sched : List Nat := [1, 0, 1, 0, 0, 1, 1, 0]
    let fin := runSched fs0 (initThrs secs) sched
    FsWF fs0 ∧ secs.Pairwise (fun a b => a.t ≠ b.t) ∧ secs.Pairwise (SecComp fs0) ∧
    (∀ k, k < secs.length → 4 ≤ sched.count k) ∧
    ∃ r, fs0.crits secs = some r ∧ (∀ th ∈ fin.2, th.pc = .done) ∧ fin.1 ≠ r ∧ ObsEq fin.1 r := by
  intro secs sched fin
  have hd : secs.Pairwise (fun a b => a.t ≠ b.t) := by decide
  have hc : secs.Pairwise (SecComp fs0) := by
    simp only [secs, List.pairwise_cons, List.mem_singleton, forall_eq, List.not_mem_nil, false_imp_iff,
      implies_true, List.Pairwise.nil, and_true]
    exact ⟨by decide, by decide, fun h => absurd h (by decide), fun _ i j h => by cases h⟩
  have hr : fs0.crits secs = some ⟨[([[100], [121]], 1), ([[100], [120]], 0)], [[[100]]],
      [(1, [0, 7]), (0, [5, 0])], 2⟩ := by decide +kernel
  have hfair : ∀ k, k < secs.length → 4 ≤ sched.count k := by decide
  refine ⟨wf0, hd, hc, hfair, _, hr, by decide +kernel, by decide +kernel, ?_⟩
  exact C05_ops_any_interleaving fs0 wf0 secs _ hd hc hr sched
    (C05_ops_completes fs0 wf0 secs _ hd hc hr sched hfair)

end TB
