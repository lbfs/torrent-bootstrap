/-
  C02 (chained, run level) — every piece whose data is present is recovered.

  The parts (`C02_piece`: completeness of the matchers for one piece; `C02run`: the index registers
  every same-length file; `C04a_found_verifies`: a found piece verifies afterwards; `C04_run_preserved`: a verifying
  piece keeps verifying) are chained here into statements about `run`:

    * `C02_run_eval`        what a run with a non-empty work list computes: `solveAll` started in the state
                            `RB.runSt3 inp` on the order `RunQ.evalOrder (run H inp).work inp.order`;
    * `C02_run_not_failed`  (T1) a piece whose data is available in scan-only files is never reported `notFound`
                            (`C02_run_none_failed`: the counters never count a failed piece);
                            `C02_run_not_failed_needs_wf`: false without `FsWF`;
    * `C02_run_recovered`   (T2) and, if its evaluation is not cut short by an I/O error, it verifies in the final tree
                            and at every interruption point after its evaluation;
                            `C02_run_recovered_needs_nofault`: false without that residual condition;
                            `C02_run_no_fault`, `C02_run_recovered_tree`: the residual condition derived, for fault-free
                            runs, from conditions on the initial tree and the table;
    * `C11_prefix_wf`       the tree at every interruption point of any run is well-formed;
    * `C11_resume_not_failed`, `C11_resume_recovers`, `C11_resume_recovers_tree`
                            (T3) a second run on the tree left by an interrupted or faulty first run recovers every
                            piece that was available in scan-only files before the first run.

  The worlds of the counterexamples and of the non-vacuity examples are in `TB.Lemmas.RunQCex`.
-/
import TB.Spec.ExportSpec
import TB.Lemmas.RunQ
import TB.Lemmas.RunQCex
namespace TB
open TB.RB

/-- the data of work item `w` is present, in tree `fs`, in files that a run with scan directories `scan` and metadata
    table `table` indexes but never modifies: there is one byte string per segment, the concatenation has the piece
    hash, the string of a padding segment is zeros, the string of a zero-length segment is empty, and the string of
    every other segment is what a read of `seg.len` bytes at offset `seg.off` returns from a regular file `(p, i)` of
    `fs` which
      * lies strictly below one of the scan directories (the condition of `C02_run_scan_registered`),
      * has exactly the declared length of the segment's torrent file, and
      * whose inode `i` is not the inode of the export image of any non-padding entry of `table`
        (in a tree with `FsWF` this implies that `p` itself is not such an image: `AvailScan_not_image`). -/
def AvailScan (H : Bytes → Bytes) (fs : Fs) (scan : List PathArg) (table : List TEntry) (w : Work) : Prop :=
  ∃ parts : List Bytes, parts.length = w.segs.length ∧ H parts.flatten = w.hash ∧
    ∀ (k : Nat) (seg : WSeg) (part : Bytes), w.segs[k]? = some seg → parts[k]? = some part →
      (seg.ent.isPad = true → part = List.replicate seg.len 0) ∧
      (seg.ent.isPad = false → seg.len = 0 → part = []) ∧
      (seg.ent.isPad = false → seg.len ≠ 0 →
        ∃ (p : Path) (i : Nat) (d : PathArg), (p, i) ∈ fs.files ∧ d ∈ scan ∧
          (d.path.length < p.length ∧ p.take d.path.length = d.path) ∧
          (fs.content i).length = seg.ent.fileLength ∧
          (∀ e ∈ table, e.isPad = false → fs.inoOf e.fullTarget ≠ some i) ∧
          part = fs.readAt i seg.off seg.len)

theorem AvailScan_not_image (fs : Fs) (hwf : FsWF fs) (table : List TEntry) (p : Path) (i : Nat)
    (hmem : (p, i) ∈ fs.files) (hout : ∀ e ∈ table, e.isPad = false → fs.inoOf e.fullTarget ≠ some i) :
    ∀ e ∈ table, e.isPad = false → e.fullTarget ≠ p := by
  intro e he hpad heq
  apply hout e he hpad
  rw [heq]
  exact RunF.look_file_inoOf (RunI.look_of_mem hwf hmem)

/-- what a run with a non-empty work list computes: it went through validation, the resize pre-flight and the
    registration of the export images (the state then is `RB.runSt3 inp`; its tree differs from `inp.fs` at most in
    export images zero-extended by the pre-flight), built the work list from the populated table, and its log, tree,
    counters and result are those of `solveAll` started in that state on the work list in the order
    `RunQ.evalOrder (run H inp).work inp.order` (the observed order if it is a permutation of the work list, the
    default order otherwise). -/
theorem C02_run_eval (H : Bytes → Bytes) (inp : RunIn) (hw : (run H inp).work ≠ []) :
    convertPiecesToWork (run H inp).table (dedupTorrents (sortTorrents inp.torrents)) = some (run H inp).work ∧
    (RunQ.evalOrder (run H inp).work inp.order).Perm (run H inp).work ∧
    (run H inp).ops = (solveAll H (runSt3 inp) (RunQ.evalOrder (run H inp).work inp.order) ⟨0, 0, 0⟩ []).1.ops ∧
    (run H inp).fs = (solveAll H (runSt3 inp) (RunQ.evalOrder (run H inp).work inp.order) ⟨0, 0, 0⟩ []).1.fs ∧
    (run H inp).counters = (solveAll H (runSt3 inp) (RunQ.evalOrder (run H inp).work inp.order) ⟨0, 0, 0⟩ []).2.1 ∧
    (run H inp).result =
      (if (solveAll H (runSt3 inp) (RunQ.evalOrder (run H inp).work inp.order) ⟨0, 0, 0⟩ []).2.2 then .panic
       else .ok ()) := by
  rcases RunQ.run_eval_or H inp with ⟨h0, _⟩ | ⟨_, hconv, h1, h2, h3, h4⟩
  · exact absurd h0 hw
  · exact ⟨hconv, RunQ.evalOrder_perm _ _, h1, h2, h3, h4⟩

/-- T1. In a run on a well-formed tree, a work item whose data is available at the START of the run in scan-only
    files (`AvailScan` on `inp.fs`) is not answered `.notFound` by `solvePiece` when the run evaluates it — at
    whatever position `pre ++ w :: post` of the evaluation order, in the state
    `(solveAll H (runSt3 inp) pre ⟨0,0,0⟩ []).1` left by the pieces evaluated before it (see `C02_run_eval`).

    Assumptions, and why:
    * NO assumption on the fault points (`inp.faults = []` is not needed): an injected I/O
      error of a candidate read or of the writer makes the answer `.fault`, never `.notFound`; a fault in the set-up
      either ends the run before any piece is evaluated or (a failed read-only open of an export image) only keeps
      that image out of the index, and the walk of the scan directories is not subject to faults in the model;
    * `hwf : FsWF inp.fs` — the statement is false without it
      (`C02_run_not_failed_needs_wf`): with a name bound twice, the index registers the last binding, reads resolve
      the first;
    * `havail` — availability in scan-only files. Nothing is assumed about `NoAlias`, the layout, the evaluation
      order, the candidate order, the resize flag, or the hash function.
    That `w` is a work item of the run (hence that the run reaches piece evaluation) follows from `hord`. -/
theorem C02_run_not_failed (H : Bytes → Bytes) (inp : RunIn) (hwf : FsWF inp.fs)
    (w : Work) (havail : AvailScan H inp.fs inp.scan (run H inp).table w)
    (pre post : List Work) (hord : RunQ.evalOrder (run H inp).work inp.order = pre ++ w :: post) :
    (solvePiece H (solveAll H (runSt3 inp) pre ⟨0, 0, 0⟩ []).1 w).2 ≠ .notFound := by
  obtain ⟨hw, hloc, _⟩ := RunQ.eval_state H inp hord
  exact RunQ.not_failed_at H inp hwf w hw havail _ hloc

/-- T1 without `FsWF` (even for fault-free runs) is refuted by the world `TB.RunQ.Cex` (`H = id`): the name `s/f` is
    bound twice; the piece data is in the second binding (a regular file of the right length below the scan
    directory, sharing no inode with an export image), the index registers that binding, but every read of `s/f`
    resolves the first one. Both pieces are reported `notFound`. -/
theorem C02_run_not_failed_needs_wf :
    ¬ (∀ (H : Bytes → Bytes) (inp : RunIn), inp.faults = [] →
        ∀ (w : Work), AvailScan H inp.fs inp.scan (run H inp).table w →
        ∀ (pre post : List Work), RunQ.evalOrder (run H inp).work inp.order = pre ++ w :: post →
          (solvePiece H (solveAll H (runSt3 inp) pre ⟨0, 0, 0⟩ []).1 w).2 ≠ .notFound) := by
  intro h
  exact h id RunQ.Cex.inp rfl RunQ.Ex.w0 RunQ.Cex.avail0 [RunQ.Ex.w1] [] RunQ.Cex.ord RunQ.Cex.w0_notFound

/-- non-vacuity of T1: in the world `TB.RunQ.Ex` (one torrent, two pieces, one scan file, `H = id`) all hypotheses
    hold for both pieces -/
example : (solvePiece id (solveAll id (runSt3 RunQ.Ex.inp) [RunQ.Ex.w1] ⟨0, 0, 0⟩ []).1 RunQ.Ex.w0).2 ≠ .notFound :=
  C02_run_not_failed id RunQ.Ex.inp RunQ.Ex.wf RunQ.Ex.w0 RunQ.Ex.avail0 [RunQ.Ex.w1] [] RunQ.Ex.ord
example : (solvePiece id (solveAll id (runSt3 RunQ.Ex.inp) [] ⟨0, 0, 0⟩ []).1 RunQ.Ex.w1).2 ≠ .notFound :=
  C02_run_not_failed id RunQ.Ex.inp RunQ.Ex.wf RunQ.Ex.w1 RunQ.Ex.avail1 [] [RunQ.Ex.w0] RunQ.Ex.ord

/-- T1 at the level of the counters: if EVERY work item of a run (fault points anywhere) on a well-formed tree is
    available in scan-only files, no counter snapshot of the run counts a failed piece (the other three outcomes —
    found, I/O error, panic — do not touch `failed`). -/
theorem C02_run_none_failed (H : Bytes → Bytes) (inp : RunIn) (hwf : FsWF inp.fs)
    (hall : ∀ w ∈ (run H inp).work, AvailScan H inp.fs inp.scan (run H inp).table w) :
    ∀ c ∈ (run H inp).counters, c.failed = 0 :=
  RunQ.counters_failed_zero H inp hwf hall

/-- T2. Under the hypotheses of T1 and of `C04_run_preserved`, a work item available in scan-only files at the start of
    the run verifies in the FINAL tree of the run — and in the tree at every interruption point after its evaluation
    (every prefix of the log that contains the operations of that evaluation) — provided the run does not die of a panic
    and the one evaluation of `w` at position `pre ++ w :: post` does not end in an I/O error.

    Assumptions, and why:
    * `hwf`, `havail` — as in T1 (`C02_run_not_failed`), which gives "not `.notFound`"; again nothing is assumed of
      the fault points — an injected fault that hits the evaluation of `w` is excluded by `hnofault`, faults elsewhere
      do no harm (`C02_run_no_fault` derives `hnofault` for fault-free runs);
    * `hnopanic : (run H inp).result ≠ .panic` — a panic of an earlier piece ends the run before `w` is evaluated
      (`solveAll` stops); this is the conclusion of `C16_run_total` (it holds whenever all torrents are `Loadable`);
      it also excludes a panic of `w` itself;
    * `hnofault` — the residual condition. Even without fault points `.fault` arises in the writer: `create_dir_all`
      fails when a proper prefix of the target's parent is a regular file, the create-open fails when the target is a
      directory. (The other sources are excluded here: candidate reads do not fail because candidates are regular
      files of a well-formed tree and stay so; the matched bytes are not too short by `hinj`.) It is stated for this
      one evaluation of `w` only;
    * `hna`, `hsame`, `hdisj`, `hinj` — the hypotheses of `C04_run_preserved`, needed for the same reason: once `w`
      verifies, later pieces must not destroy it (`hsame`: `TB.Lemmas.RunKCex`); `hinj` also gives that every buffer
      with the hash of `w` has the length of `w`; `hna` and the second clause of `hdisj` give that the images of the
      segments of `w` are distinct files (`ImagesDistinct`, needed by `C04a_found_verifies`);
    * `hrange : SegsInRange w` — only for `w`;
    * `hzero` — a zero-length segment belongs to an empty file; inherited from `C04a_found_verifies`, where it is
      necessary at piece level (`TB.Lemmas.RunFCex`); a fact of the layout (C06). -/
theorem C02_run_recovered (H : Bytes → Bytes) (inp : RunIn) (hwf : FsWF inp.fs)
    (hna : NoAlias inp.fs (run H inp).table)
    (hsame : ∀ e ∈ (run H inp).table, ∀ f ∈ (run H inp).table, e.isPad = false → f.isPad = false →
      e.fullTarget = f.fullTarget → e.fileLength = f.fileLength)
    (hdisj : RangesDisjoint (run H inp).work) (hinj : HInjOn H (run H inp).work)
    (w : Work) (hrange : SegsInRange w) (hzero : ∀ s ∈ w.segs, s.len = 0 → s.ent.fileLength = 0)
    (havail : AvailScan H inp.fs inp.scan (run H inp).table w)
    (hnopanic : (run H inp).result ≠ .panic)
    (pre post : List Work) (hord : RunQ.evalOrder (run H inp).work inp.order = pre ++ w :: post)
    (hnofault : (solvePiece H (solveAll H (runSt3 inp) pre ⟨0, 0, 0⟩ []).1 w).2 ≠ .fault) :
    VerE H (run H inp).fs w ∧
    ∀ n, (solvePiece H (solveAll H (runSt3 inp) pre ⟨0, 0, 0⟩ []).1 w).1.ops.length ≤ n →
      VerE H (replay inp.fs ((run H inp).ops.take n)) w := by
  obtain ⟨hw, hloc, hreach, _⟩ := RunQ.eval_state H inp hord
  obtain ⟨_, _, hops, hfs, _, hres⟩ := C02_run_eval H inp (List.ne_nil_of_mem hw)
  -- the run does not panic: the evaluation can be cut at `w`
  rw [hord] at hops hfs hres
  obtain ⟨_, hnp, c', acc', hcut⟩ := RunQ.solveAll_cut H pre w post (runSt3 inp) ⟨0, 0, 0⟩ []
    (RunQ.flag_of_result hres hnopanic)
  have hnf := C02_run_not_failed H inp hwf w havail pre post hord
  have hfound : (solvePiece H (solveAll H (runSt3 inp) pre ⟨0, 0, 0⟩ []).1 w).2 = .found := by
    cases hr : (solvePiece H (solveAll H (runSt3 inp) pre ⟨0, 0, 0⟩ []).1 w).2 with
    | found => rfl
    | notFound => exact absurd hr hnf
    | fault => exact absurd hr hnofault
    | panic => exact absurd hr hnp
  -- the rest of the run
  obtain ⟨_, new, hnew, hfsnew⟩ := (solveAll_trace H
    (solvePiece H (solveAll H (runSt3 inp) pre ⟨0, 0, 0⟩ []).1 w).1 post c' acc').reach
  rw [← hcut, ← hops] at hnew
  rw [← hcut, ← hfs, ← replay_eq_replayD] at hfsnew
  have hinit := (hreach.trans (solvePiece_trace H _ w).reach).replay_init
  rw [← replay_eq_replayD] at hinit
  have key : ∀ ops : List Op, (∀ o ∈ ops, o ∈ new) →
      VerE H (replay (solvePiece H (solveAll H (runSt3 inp) pre ⟨0, 0, 0⟩ []).1 w).1.fs ops) w := by
    intro ops hsub
    refine RunQ.recovered_at H inp hwf hna hsame hdisj hinj w hw hrange hzero
      (RunQ.avail_length (hinj w hw) hrange havail) _ hreach hloc hfound ops ?_
    intro o ho
    rw [hnew]
    exact List.mem_append_right _ (hsub o ho)
  refine ⟨by rw [hfsnew]; exact key new (fun _ h => h), ?_⟩
  intro n hn
  rw [hnew, List.take_append, List.take_of_length_le hn, replay_append, ← hinit]
  exact key _ (fun _ h => List.mem_of_mem_take h)

/-- T2 without its residual condition `hnofault` is refuted by the world `TB.RunQ.Dir` (`H = id`): every other hypothesis
    holds, but the export image exists as a directory; both pieces are matched from the scan file, the create-open of
    the image fails, the pieces end in `.fault` and do not verify. -/
theorem C02_run_recovered_needs_nofault :
    ¬ (∀ (H : Bytes → Bytes) (inp : RunIn), inp.faults = [] → FsWF inp.fs → NoAlias inp.fs (run H inp).table →
        (∀ e ∈ (run H inp).table, ∀ f ∈ (run H inp).table, e.isPad = false → f.isPad = false →
          e.fullTarget = f.fullTarget → e.fileLength = f.fileLength) →
        RangesDisjoint (run H inp).work → HInjOn H (run H inp).work →
        ∀ (w : Work), SegsInRange w → (∀ s ∈ w.segs, s.len = 0 → s.ent.fileLength = 0) →
          AvailScan H inp.fs inp.scan (run H inp).table w → (run H inp).result ≠ .panic →
          ∀ (pre post : List Work), RunQ.evalOrder (run H inp).work inp.order = pre ++ w :: post →
            VerE H (run H inp).fs w) := by
  intro h
  exact RunQ.Dir.w0_not_ver (h id RunQ.Dir.inp rfl RunQ.Dir.wf RunQ.Dir.noAlias RunQ.Dir.sameLen RunQ.Dir.disj
    RunQ.Dir.hinj RunQ.Ex.w0 RunQ.Ex.range0 RunQ.Ex.zero0 RunQ.Dir.avail0 RunQ.Dir.nopanic [RunQ.Ex.w1] []
    RunQ.Dir.ord)

/-- the residual condition of T2 derived from conditions on the initial tree and the table. Without fault points the
    evaluation of an available work item does not end in `.fault` if
    * `hwr` — in the initial tree the export image of every non-padding segment of `w` is a regular file or absent
      with nothing in the way: `look` answers neither ENOTDIR (a proper prefix is a regular file: `create_dir_all`
      fails) nor "directory" (the create-open fails with EISDIR);
    * `hnest` — no export image of the run's table is a proper prefix of such an image or the other way round (a
      torrent that lists both `a` and `a/b` as files makes whichever is written second fail);
    * `hinjw`, `hrange`, `havail` — every buffer with the hash of `w` has the length of `w` (otherwise the writer
      reports the matched bytes as too short);
    * `hfa`, `hwf` — as in T1 (candidate reads do not fail: candidates are regular files and stay so). -/
theorem C02_run_no_fault (H : Bytes → Bytes) (inp : RunIn) (hfa : inp.faults = []) (hwf : FsWF inp.fs)
    (w : Work) (hinjw : ∀ b b', H b = w.hash → H b' = w.hash → b = b') (hrange : SegsInRange w)
    (havail : AvailScan H inp.fs inp.scan (run H inp).table w)
    (hwr : ∀ s ∈ w.segs, s.ent.isPad = false →
      inp.fs.look s.ent.fullTarget ≠ .notDir ∧ inp.fs.look s.ent.fullTarget ≠ .dir)
    (hnest : ∀ s ∈ w.segs, s.ent.isPad = false → ∀ e ∈ (run H inp).table, e.isPad = false →
      e.fullTarget ∉ Fs.properPrefixes s.ent.fullTarget ∧ s.ent.fullTarget ∉ Fs.properPrefixes e.fullTarget)
    (pre post : List Work) (hord : RunQ.evalOrder (run H inp).work inp.order = pre ++ w :: post) :
    (solvePiece H (solveAll H (runSt3 inp) pre ⟨0, 0, 0⟩ []).1 w).2 ≠ .fault := by
  obtain ⟨hw, hloc, hreach, hsub⟩ := RunQ.eval_state H inp hord
  have F := RunQ.facts H inp (List.ne_nil_of_mem hw)
  have hent := convertPiecesToWork_ent F.conv w hw
  refine RunQ.solvePiece_no_fault H _ w (hreach.faults.trans hfa) ?_ (RunQ.avail_length hinjw hrange havail) ?_ ?_
  · exact fun s hs paths hps p hp => RunQ.candidates_files H inp F hwf _ hloc s.ent (hent s hs) paths hps p hp
  · intro s hs hp
    exact RunQ.wr_at H inp _ hreach hsub _ (RunQ.Wr_iff_look.2 (hwr s hs hp)) (hnest s hs hp)
  · intro s hs t ht hps hpt
    exact (hnest t ht hpt s.ent (hent s hs) hps).1

/-- T2 with the residual condition stated on the initial tree and the table (`C02_run_recovered` and
    `C02_run_no_fault` combined): see there for the hypotheses. -/
theorem C02_run_recovered_tree (H : Bytes → Bytes) (inp : RunIn) (hfa : inp.faults = []) (hwf : FsWF inp.fs)
    (hna : NoAlias inp.fs (run H inp).table)
    (hsame : ∀ e ∈ (run H inp).table, ∀ f ∈ (run H inp).table, e.isPad = false → f.isPad = false →
      e.fullTarget = f.fullTarget → e.fileLength = f.fileLength)
    (hdisj : RangesDisjoint (run H inp).work) (hinj : HInjOn H (run H inp).work)
    (w : Work) (hrange : SegsInRange w) (hzero : ∀ s ∈ w.segs, s.len = 0 → s.ent.fileLength = 0)
    (havail : AvailScan H inp.fs inp.scan (run H inp).table w)
    (hnopanic : (run H inp).result ≠ .panic)
    (hwr : ∀ s ∈ w.segs, s.ent.isPad = false →
      inp.fs.look s.ent.fullTarget ≠ .notDir ∧ inp.fs.look s.ent.fullTarget ≠ .dir)
    (hnest : ∀ s ∈ w.segs, s.ent.isPad = false → ∀ e ∈ (run H inp).table, e.isPad = false →
      e.fullTarget ∉ Fs.properPrefixes s.ent.fullTarget ∧ s.ent.fullTarget ∉ Fs.properPrefixes e.fullTarget)
    (hw : w ∈ (run H inp).work) :
    VerE H (run H inp).fs w := by
  obtain ⟨pre, post, hord⟩ := List.append_of_mem (RunQ.mem_evalOrder.2 hw)
  exact (C02_run_recovered H inp hwf hna hsame hdisj hinj w hrange hzero havail hnopanic pre post hord
    (C02_run_no_fault H inp hfa hwf w (hinj w hw) hrange havail hwr hnest pre post hord)).1

/-- non-vacuity of T2: in the world `TB.RunQ.Ex` all hypotheses hold (for the piece evaluated second) -/
example : VerE id (run id RunQ.Ex.inp).fs RunQ.Ex.w0 :=
  (C02_run_recovered id RunQ.Ex.inp RunQ.Ex.wf RunQ.Ex.noAlias RunQ.Ex.sameLen RunQ.Ex.disj RunQ.Ex.hinj
    RunQ.Ex.w0 RunQ.Ex.range0 RunQ.Ex.zero0 RunQ.Ex.avail0 RunQ.Ex.nopanic [RunQ.Ex.w1] [] RunQ.Ex.ord
    RunQ.Ex.nofault0).1

/-- non-vacuity of `C02_run_recovered_tree`: the tree-level residual conditions hold in `TB.RunQ.Ex` as well -/
example : VerE id (run id RunQ.Ex.inp).fs RunQ.Ex.w1 :=
  C02_run_recovered_tree id RunQ.Ex.inp rfl RunQ.Ex.wf RunQ.Ex.noAlias RunQ.Ex.sameLen RunQ.Ex.disj RunQ.Ex.hinj
    RunQ.Ex.w1 RunQ.Ex.range1 RunQ.Ex.zero1 RunQ.Ex.avail1 RunQ.Ex.nopanic
    (by decide +kernel) (by rw [RunQ.Ex.run_table]; decide +kernel) (by rw [RunQ.Ex.run_work]; decide +kernel)

/-- the tree at every interruption point of any run (faults anywhere, any crash point `n`) on a well-formed tree is
    well-formed: directories are created before the files in them, at every instant -/
theorem C11_prefix_wf (H : Bytes → Bytes) (inp : RunIn) (hwf : FsWF inp.fs) (n : Nat) :
    FsWF (replay inp.fs ((run H inp).ops.take n)) :=
  RunR.run_wflog H inp inp.fs hwf n

/-- the input of a second run on the tree an earlier run `inp` left when it was interrupted after `n` logged operations
    (`n ≥` the length of the log: the first run finished); the second run may observe another candidate order `obs'`
    and another evaluation order `ord'`, and has its own fault points `flts'` (`[]` for a fault-free second run) -/
def resumeIn (H : Bytes → Bytes) (inp : RunIn) (n : Nat) (obs' : List (Nat × List Path))
    (ord' : List (List (Nat × Nat × Nat) × Bytes)) (flts' : List Nat) : RunIn :=
  { inp with fs := replay inp.fs ((run H inp).ops.take n), faults := flts', searchObs := obs', order := ord' }

/-- T3, first half. Whatever the first run did (fault points anywhere, interrupted after any number `n` of logged
    operations), a second run `resumeIn H inp n obs' ord' flts'` (fault-free or not) does not report `.notFound` for any
    work item whose data was available in scan-only files at the start of the FIRST run.

    Availability refers to the table built from the torrents, `runTable0 inp` (both runs build it; the table in the
    output of the first run is empty if that run stopped early). Assumptions: `hwf` (as in T1; it carries over to the
    interruption point by `C11_prefix_wf`) and `hna : NoAlias inp.fs (runTable0 inp)` (needed by `C03_frame`: an export
    image hard-linked to a scan file would let the first run overwrite that file). -/
theorem C11_resume_not_failed (H : Bytes → Bytes) (inp : RunIn) (n : Nat) (obs' : List (Nat × List Path))
    (ord' : List (List (Nat × Nat × Nat) × Bytes)) (flts' : List Nat) (hwf : FsWF inp.fs)
    (hna : NoAlias inp.fs (runTable0 inp))
    (w : Work) (havail : AvailScan H inp.fs inp.scan (runTable0 inp) w) (pre post : List Work)
    (hord : RunQ.evalOrder (run H (resumeIn H inp n obs' ord' flts')).work ord' = pre ++ w :: post) :
    (solvePiece H (solveAll H (runSt3 (resumeIn H inp n obs' ord' flts')) pre ⟨0, 0, 0⟩ []).1 w).2 ≠ .notFound := by
  refine C02_run_not_failed H (resumeIn H inp n obs' ord' flts') (C11_prefix_wf H inp hwf n) w ?_ pre post hord
  exact RunQ.avail_transport H inp hwf hna n _ (RunQ.run_table_sub H (resumeIn H inp n obs' ord' flts')) w havail

/-- T3. ... and the second run recovers it: the piece verifies in the final tree of the second run, under the
    hypotheses of T2 for the second run. `FsWF` and `NoAlias` are assumed of the tree before the FIRST run only (they
    carry over to the interruption point); the layout facts (`hsame`, `hdisj`, `hinj`, `hrange`, `hzero`) do not depend
    on the tree and are stated for the second run's table and work list; `hnopanic` and `hnofault` are the residual
    conditions of T2 for the second run. -/
theorem C11_resume_recovers (H : Bytes → Bytes) (inp : RunIn) (n : Nat) (obs' : List (Nat × List Path))
    (ord' : List (List (Nat × Nat × Nat) × Bytes)) (flts' : List Nat) (hwf : FsWF inp.fs)
    (hna : NoAlias inp.fs (runTable0 inp))
    (hsame : ∀ e ∈ (run H (resumeIn H inp n obs' ord' flts')).table,
      ∀ f ∈ (run H (resumeIn H inp n obs' ord' flts')).table,
      e.isPad = false → f.isPad = false → e.fullTarget = f.fullTarget → e.fileLength = f.fileLength)
    (hdisj : RangesDisjoint (run H (resumeIn H inp n obs' ord' flts')).work)
    (hinj : HInjOn H (run H (resumeIn H inp n obs' ord' flts')).work)
    (w : Work) (hrange : SegsInRange w) (hzero : ∀ s ∈ w.segs, s.len = 0 → s.ent.fileLength = 0)
    (havail : AvailScan H inp.fs inp.scan (runTable0 inp) w)
    (hnopanic : (run H (resumeIn H inp n obs' ord' flts')).result ≠ .panic)
    (pre post : List Work)
    (hord : RunQ.evalOrder (run H (resumeIn H inp n obs' ord' flts')).work ord' = pre ++ w :: post)
    (hnofault :
      (solvePiece H (solveAll H (runSt3 (resumeIn H inp n obs' ord' flts')) pre ⟨0, 0, 0⟩ []).1 w).2 ≠ .fault) :
    VerE H (run H (resumeIn H inp n obs' ord' flts')).fs w := by
  have hsub := RunQ.run_table_sub H (resumeIn H inp n obs' ord' flts')
  exact (C02_run_recovered H (resumeIn H inp n obs' ord' flts') (C11_prefix_wf H inp hwf n)
    (RunR.noAl_replay hwf (RunQ.noAl_sub hna hsub) _) hsame hdisj hinj w
    hrange hzero (RunQ.avail_transport H inp hwf hna n _ hsub w havail) hnopanic pre post hord hnofault).1

/-- T3 with the residual condition of the second run stated on the tree before the FIRST run and on the static table
    (`C11_resume_recovers` and `C02_run_no_fault` combined): the export images of the segments of `w` are regular files
    or absent with nothing in the way (`hwr`), and are not nested with any export image of the table (`hnest`). Both
    carry over to every interruption point of the first run, because a run creates nothing but export images and the
    directories above them. -/
theorem C11_resume_recovers_tree (H : Bytes → Bytes) (inp : RunIn) (n : Nat) (obs' : List (Nat × List Path))
    (ord' : List (List (Nat × Nat × Nat) × Bytes)) (hwf : FsWF inp.fs) (hna : NoAlias inp.fs (runTable0 inp))
    (hsame : ∀ e ∈ (run H (resumeIn H inp n obs' ord' [])).table, ∀ f ∈ (run H (resumeIn H inp n obs' ord' [])).table,
      e.isPad = false → f.isPad = false → e.fullTarget = f.fullTarget → e.fileLength = f.fileLength)
    (hdisj : RangesDisjoint (run H (resumeIn H inp n obs' ord' [])).work)
    (hinj : HInjOn H (run H (resumeIn H inp n obs' ord' [])).work)
    (w : Work) (hw : w ∈ (run H (resumeIn H inp n obs' ord' [])).work)
    (hrange : SegsInRange w) (hzero : ∀ s ∈ w.segs, s.len = 0 → s.ent.fileLength = 0)
    (havail : AvailScan H inp.fs inp.scan (runTable0 inp) w)
    (hnopanic : (run H (resumeIn H inp n obs' ord' [])).result ≠ .panic)
    (hwr : ∀ s ∈ w.segs, s.ent.isPad = false →
      inp.fs.look s.ent.fullTarget ≠ .notDir ∧ inp.fs.look s.ent.fullTarget ≠ .dir)
    (hnest : ∀ s ∈ w.segs, s.ent.isPad = false → ∀ e ∈ runTable0 inp, e.isPad = false →
      e.fullTarget ∉ Fs.properPrefixes s.ent.fullTarget ∧ s.ent.fullTarget ∉ Fs.properPrefixes e.fullTarget) :
    VerE H (run H (resumeIn H inp n obs' ord' [])).fs w := by
  have hsub := RunQ.run_table_sub H (resumeIn H inp n obs' ord' [])
  refine C02_run_recovered_tree H (resumeIn H inp n obs' ord' []) rfl (C11_prefix_wf H inp hwf n)
    (RunR.noAl_replay hwf (RunQ.noAl_sub hna hsub) _) hsame hdisj hinj w hrange hzero (RunQ.avail_transport H inp hwf hna n _ hsub w havail) hnopanic ?_ ?_ hw
  · intro s hs hp
    refine RunQ.Wr_iff_look.1 (RunQ.wr_replay H inp _ (fun _ h => List.mem_of_mem_take h) _
      (RunQ.Wr_iff_look.2 (hwr s hs hp)) ?_)
    intro e he hpe
    obtain ⟨e0, he0, x, rfl⟩ := RunQ.run_table_sub H inp e he
    exact hnest s hs hp e0 he0 hpe
  · intro s hs hp e he hpe
    obtain ⟨e0, he0, x, rfl⟩ := hsub e he
    exact hnest s hs hp e0 he0 hpe

/-- non-vacuity of T3: the world `TB.RunQ.Resume` — a first run with a fault point (one piece ends in `.fault`, its image
    is left as zeros), interrupted after 12 operations; the second run recovers the piece -/
example : VerE id (run id (resumeIn id RunQ.Resume.inpF 12 [] [] [])).fs RunQ.Resume.w0' :=
  C11_resume_recovers id RunQ.Resume.inpF 12 [] [] [] RunQ.Ex.wf RunQ.Resume.noAlias0 RunQ.Resume.sameLen
    RunQ.Resume.disj RunQ.Resume.hinj RunQ.Resume.w0' RunQ.Resume.range0 RunQ.Resume.zero0 RunQ.Resume.avail0
    RunQ.Resume.nopanic [RunQ.Resume.w1'] [] RunQ.Resume.ord RunQ.Resume.nofault0

end TB
