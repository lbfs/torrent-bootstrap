/-
  C16 — no panic, unconditionally: since the writer checks the length of the matched bytes
  (`result.bytes.get(start..end)`), evaluating a piece can reach a panic branch only through the single-segment
  matcher's `unwrap` of a candidate list that does not exist, which the layout excludes for loadable torrents.
-/
import TB.Spec.ExportSpec
import TB.Props.C16
import TB.Props.C16run
import TB.Lemmas.RunB
import TB.Lemmas.RunH
namespace TB

/-- the writer never panics: too-short matched bytes are an I/O error of the piece -/
theorem C16_writer_total (st : St) (pairs : List (WSeg × Option Path)) (buf : Bytes) (start : Nat) :
    (writeSegs st pairs buf start).2 ≠ .panic := by
  exact writeSegs_ne_panic st pairs buf start

/-- evaluating a piece never panics, whatever the hash function, the tree, the candidates and the fault points,
    provided a single-segment piece is not an empty non-padding segment (a fact of the layout) -/
theorem C16_piece_total (H : Bytes → Bytes) (st : St) (w : Work)
    (hsingle : ∀ s, w.segs = [s] → s.len ≠ 0 ∨ s.ent.isPad = true) :
    (solvePiece H st w).2 ≠ .panic := by
  exact solvePiece_ne_panic H st w hsingle

/-- run level, unconditional: a run on loadable torrents — any tree, any candidate order, any evaluation order,
    any fault points, any hash function — returns a result and never panics -/
theorem C16_run_total (H : Bytes → Bytes) (inp : RunIn) (hload : ∀ t ∈ inp.torrents, Loadable H t) :
    (run H inp).result ≠ .panic := by
  exact RunH.run_no_panic H inp hload

end TB
