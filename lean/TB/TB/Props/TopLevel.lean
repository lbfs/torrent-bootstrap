/-
  Top level — the run-level theorems CHAINED into statements whose hypotheses speak only of
    (a) the torrents as loaded   (`Loadable`, `DistinctPaths` / `PrefixFreePaths`),
    (b) the initial tree         (`FsWF`, `NoAlias … (table0 inp)`, `AvailScan … (table0 inp)`, the two `look` conditions),
    (c) the hash                 (`HInjOn H (work0 inp)`: collision-freedom on the piece hashes of the run).
  `table0 inp` / `work0 inp` are the table and the work list before candidate lists are filled in: functions of the
  export directory and the torrents only. The theorems chained here (`C01_bytes`, `C04_run_preserved`,
  `C02_run_recovered_tree`, `C11_resume_recovers_tree`) state their layout hypotheses on `(run H inp).table` /
  `(run H inp).work`, which carry candidate lists and so depend on the tree.

    V1  `layout_of_layoutOk`   the layout facts on the run's own table and work list;
    V2  `C01_bytes_loaded`, `C01_bytes_prefix_loaded`, `C01_bytes_loaded0`, `C04_run_preserved_loaded`;
    V3  `C02_run_recovered_loaded`  (paths prefix-free) and `C02_run_recovered_loaded_nest` (`DistinctPaths` + `hnest`);
        `C02_run_recovered_loaded0` (work items taken from `work0`), `C02_run_all_recovered_loaded` (all at once);
        `C02_run_recovered_loaded_needs_hnest`: with `DistinctPaths` alone the statement is false;
    V4  `C11_resume_recovers_loaded`, `C11_resume_recovers_loaded_nest`;
    V5  `TreeExtends`, `AvailScan_tree_mono`, `AvailScan_smaller_table`, `AvailScan_fewer_torrents`,
        `AvailScan_larger_table`, `C17_more_candidates`, `C17_more_candidates_recovered`;
        `C17_more_candidates_needs_noNewAlias`: without the alias condition the statement is false.

  What is derived and what stays assumed:
    * `hnopanic` of `C02_run_recovered`: derived (`C16_run_total`, from `Loadable`).
    * `hzero` (a zero-length segment belongs to an empty file): derived from `Loadable` (third clause of the C06
      partition; `RunV.zero_run`).
    * `hnest` (export images are not nested): NOT derivable from `Loadable` and `DistinctPaths`: a loadable torrent
      may list `a` and `a/b`; then whichever image is written second fails, and the piece is not recovered
      (`C02_run_recovered_loaded_needs_hnest`, a checked world). It is derived from the stronger path condition
      `PrefixFreePaths` (no non-padding path is a prefix of another one), which implies `DistinctPaths`.
    * `HInjOn` stays: it is the assumption on SHA-1. `C01_bytes_loaded` does not need it.

  Helper lemmas: TB/Lemmas/RunV.lean.
-/
import TB.Spec.ExportSpec
import TB.Props.C01bytes
import TB.Props.C04h
import TB.Props.C04hist
import TB.Props.C02chain
import TB.Props.C06layout
import TB.Props.C16total
import TB.Lemmas.RunV
namespace TB
open TB.RB

/-- the tree-independent layout facts (`LayoutOk`: stated on `table0 inp` / `work0 inp`) give the layout hypotheses of
    `C01_bytes`, `C04_run_preserved`, `C02_run_recovered` on the table and work list of the actual run, on whatever
    tree it runs. Nothing else is assumed: the run's entries and work items are those of `table0` / `work0` with
    candidate lists filled in (`work0_covers`), and the four facts do not look at candidate lists. (If the run stops
    before building its work list, its work list is empty and its table is empty or `table0`.) -/
theorem layout_of_layoutOk (H : Bytes → Bytes) (inp : RunIn) (h : LayoutOk H inp) :
    (∀ w ∈ (run H inp).work, SegsInRange w) ∧
    (∀ e ∈ (run H inp).table, ∀ f ∈ (run H inp).table, e.isPad = false → f.isPad = false →
      e.fullTarget = f.fullTarget → e.fileLength = f.fileLength) ∧
    RangesDisjoint (run H inp).work ∧
    HInjOn H (run H inp).work :=
  ⟨RunV.range_run H inp h.range, RunV.same_run H inp h.same, RunV.disj_run H inp h.disj, RunV.hinj_run H inp h.inj⟩

/-- `NoAlias` with respect to `table0 inp` (tree-independent table) gives `NoAlias` with respect to the table of the
    run, on any tree: the run's entries have the images of entries of `table0` -/
theorem NoAlias_run_of_table0 (H : Bytes → Bytes) (inp : RunIn) (fs : Fs) (h : NoAlias fs (table0 inp)) :
    NoAlias fs (run H inp).table := RunV.noAlias_run H inp h

/-- conversely, for a run that reaches piece evaluation (non-empty work list): its table is `table0` with candidate
    lists filled in. (For a run that stops during validation the table is empty and the converse fails.) -/
theorem NoAlias_table0_of_run (H : Bytes → Bytes) (inp : RunIn) (fs : Fs) (hw : (run H inp).work ≠ [])
    (h : NoAlias fs (run H inp).table) : NoAlias fs (table0 inp) := RunV.noAlias_table0_of_run H inp hw h

/-- `AvailScan` stated with the tree-independent table gives `AvailScan` with the table of the run (it depends on the
    table only through the images of the non-padding entries); the converse holds for a run that reaches piece
    evaluation -/
theorem AvailScan_run_of_table0 (H : Bytes → Bytes) (inp : RunIn) (fs : Fs) (scan : List PathArg) (w : Work)
    (h : AvailScan H fs scan (table0 inp) w) : AvailScan H fs scan (run H inp).table w := RunV.avail_run H inp h

theorem AvailScan_table0_of_run (H : Bytes → Bytes) (inp : RunIn) (fs : Fs) (scan : List PathArg) (w : Work)
    (hw : (run H inp).work ≠ []) (h : AvailScan H fs scan (run H inp).table w) :
    AvailScan H fs scan (table0 inp) w := RunV.avail_table0_of_run H inp hw h

/-- C01 (end state) with the layout hypotheses derived. After any run (faults anywhere, any orders) every byte of
    every file is what it was, a zero produced by extending a file, or the correct torrent byte.
    Assumed:
    * `hwf`    the initial tree is well-formed;
    * `hna`    in the initial tree no export image of the run (`table0 inp`) shares its inode with another name;
    * `hload`  every torrent is a record the loader produces (gives `SegsInRange`, `C06_segs_in_range`);
    * `hpaths` no non-padding path is listed twice inside a torrent (gives `hsame`, `C06_same_length`; without it
               the statement is false, `C01_bytes_needs_hsame`).
    `HInjOn` is NOT assumed: `C01_bytes` does not use collision-freedom (a "correct torrent byte" is defined through
    any buffer with the piece's hash). -/
theorem C01_bytes_loaded (H : Bytes → Bytes) (inp : RunIn) (hwf : FsWF inp.fs)
    (hna : NoAlias inp.fs (table0 inp)) (hload : ∀ t ∈ inp.torrents, Loadable H t)
    (hpaths : DistinctPaths inp.torrents) :
    BytesOk H (run H inp).work inp.fs (run H inp).fs :=
  C01_bytes H inp hwf (RunV.noAlias_run H inp hna) (RunV.range_run H inp (C06_segs_in_range H inp hload))
    (RunV.same_run H inp (C06_same_length inp hpaths))

/-- the prefix form: the same at every interruption point of the run -/
theorem C01_bytes_prefix_loaded (H : Bytes → Bytes) (inp : RunIn) (hwf : FsWF inp.fs)
    (hna : NoAlias inp.fs (table0 inp)) (hload : ∀ t ∈ inp.torrents, Loadable H t)
    (hpaths : DistinctPaths inp.torrents) (n : Nat) :
    BytesOk H (run H inp).work inp.fs (replay inp.fs ((run H inp).ops.take n)) :=
  C01_bytes_prefix H inp hwf (RunV.noAlias_run H inp hna) (RunV.range_run H inp (C06_segs_in_range H inp hload))
    (RunV.same_run H inp (C06_same_length inp hpaths)) n

/-- "correct torrent byte" with respect to the run's work list is "correct torrent byte" with respect to `work0`
    (`GoodByte` looks at ranges, padding flags, images and hashes only) -/
theorem GoodByte_work0 (H : Bytes → Bytes) (inp : RunIn) {p : Path} {k : Nat} {x : UInt8}
    (h : GoodByte H (run H inp).work p k x) : GoodByte H (work0 inp) p k x := by
  obtain ⟨w, hw, j, seg, buf, hseg, hp, hpath, h1, h2, hH, hbuf⟩ := h
  refine ⟨w.strip, RunR.run_work_strip_mem H inp w hw, j, seg.strip, buf, RunV.getElem?_strip_segs hseg, hp, hpath,
    h1, h2, hH, ?_⟩
  show buf[segStart (w.segs.map WSeg.strip) j + (k - seg.off)]? = some x
  rw [RunR.segStart_strip]
  exact hbuf

/-- C01 with BOTH the hypotheses and the conclusion free of candidate lists: the "correct torrent bytes" are those of
    `work0 inp`, a function of the torrents and the export directory. Hypotheses as in `C01_bytes_loaded`. -/
theorem C01_bytes_loaded0 (H : Bytes → Bytes) (inp : RunIn) (hwf : FsWF inp.fs)
    (hna : NoAlias inp.fs (table0 inp)) (hload : ∀ t ∈ inp.torrents, Loadable H t)
    (hpaths : DistinctPaths inp.torrents) (n : Nat) :
    BytesOk H (work0 inp) inp.fs (replay inp.fs ((run H inp).ops.take n)) := by
  intro p i hp k x hx
  rcases C01_bytes_prefix_loaded H inp hwf hna hload hpaths n p i hp k x hx with h | h | h
  · exact .inl h
  · exact .inr (.inl h)
  · exact .inr (.inr (GoodByte_work0 H inp h))

/-- C04 clause a at run level with the layout hypotheses derived: a work item of the run that verifies in the
    initial tree verifies in the tree at every interruption point of the run (and in the final tree: take
    `n ≥` the length of the log).
    Assumed: `hwf`, `hna`, `hload`, `hpaths` as in `C01_bytes_loaded`, and
    * `hinj`  the hash is collision-free on the piece hashes of the run (`HInjOn`, the assumption on SHA-1; needed
              because a re-found piece is re-written from a buffer that only has the right hash);
    `hpaths` also gives `RangesDisjoint` here (`C06_ranges_disjoint`). -/
theorem C04_run_preserved_loaded (H : Bytes → Bytes) (inp : RunIn) (hwf : FsWF inp.fs)
    (hna : NoAlias inp.fs (table0 inp)) (hload : ∀ t ∈ inp.torrents, Loadable H t)
    (hpaths : DistinctPaths inp.torrents) (hinj : HInjOn H (work0 inp))
    (w : Work) (hw : w ∈ (run H inp).work) (hver : VerE H inp.fs w) (n : Nat) :
    VerE H (replay inp.fs ((run H inp).ops.take n)) w := by
  obtain ⟨hr, hs, hd, hi⟩ := layout_of_layoutOk H inp (C06_layout_ok H inp hload hpaths hinj)
  exact C04_run_preserved H inp hwf (RunV.noAlias_run H inp hna) hr hs hd hi w hw hver n

/-- the same for the final tree -/
theorem C04_run_preserved_loaded_final (H : Bytes → Bytes) (inp : RunIn) (hwf : FsWF inp.fs)
    (hna : NoAlias inp.fs (table0 inp)) (hload : ∀ t ∈ inp.torrents, Loadable H t)
    (hpaths : DistinctPaths inp.torrents) (hinj : HInjOn H (work0 inp))
    (w : Work) (hw : w ∈ (run H inp).work) (hver : VerE H inp.fs w) :
    VerE H (run H inp).fs w := by
  have := C04_run_preserved_loaded H inp hwf hna hload hpaths hinj w hw hver (run H inp).ops.length
  rwa [List.take_length, ← C11_replay] at this

/-- within every torrent of the list, the path of a non-padding file is not a prefix of the path of another
    non-padding file (component-wise; `a` is a prefix of `a/b` and of `a`). Stronger than `DistinctPaths` (which only
    excludes equal paths); exactly what makes the export images pairwise un-nested (`hnest`). Padding files are
    exempt, as in `DistinctPaths`. A single-file torrent satisfies the condition vacuously. -/
def PrefixFreePaths (ts : List Torrent) : Prop :=
  ∀ t ∈ ts, ∀ fs, t.info.files = some fs → ∀ (i j : Nat) (f g : FileRec), fs[i]? = some f → fs[j]? = some g → i ≠ j →
    isPaddingPath f.path = false → isPaddingPath g.path = false → ¬ f.path <+: g.path

theorem PrefixFreePaths.distinct {ts : List Torrent} (h : PrefixFreePaths ts) : DistinctPaths ts :=
  fun t ht => RunV.PrefixFree.distinct (h t ht)

/-- `PrefixFreePaths` in a form `decide` can check on a concrete torrent list (bounded indices) -/
theorem PrefixFreePaths.of_check {ts : List Torrent}
    (h : ∀ t ∈ ts, ∀ fs, t.info.files = some fs →
      ∀ i ∈ List.range fs.length, ∀ j ∈ List.range fs.length, i ≠ j →
        isPaddingPath (fs[i]?.getD default).path = false → isPaddingPath (fs[j]?.getD default).path = false →
        ((fs[i]?.getD default).path.isPrefixOf (fs[j]?.getD default).path) = false) : PrefixFreePaths ts := by
  intro t ht fs hfs i j f g hi hj hij n1 n2 hpre
  obtain ⟨ri, rfl⟩ := List.getElem?_getD_range hi
  obtain ⟨rj, rfl⟩ := List.getElem?_getD_range hj
  exact Bool.noConfusion ((List.isPrefixOf_iff_prefix.2 hpre).symm.trans (h t ht fs hfs i ri j rj hij n1 n2))

/-- the export images of the non-padding entries of the run are pairwise un-nested if the paths are prefix-free:
    torrents of the table have distinct info-hashes (`C06_hashes_distinct`), hence export roots differing in one
    component; inside one torrent the image determines the path -/
theorem C06_not_nested (inp : RunIn) (hpf : PrefixFreePaths inp.torrents) :
    ∀ e ∈ table0 inp, ∀ f ∈ table0 inp, e.isPad = false → f.isPad = false →
      e.fullTarget ∉ Fs.properPrefixes f.fullTarget :=
  RunV.notNested_table0 inp hpf

/-- a zero-length segment of a work item of the run belongs to an empty file (`hzero` of `C02_run_recovered`):
    a fact of the C06 partition, from `Loadable` alone -/
theorem C06_zero_segments (H : Bytes → Bytes) (inp : RunIn) (hload : ∀ t ∈ inp.torrents, Loadable H t) :
    (∀ w ∈ work0 inp, ∀ s ∈ w.segs, s.len = 0 → s.ent.fileLength = 0) ∧
    (∀ w ∈ (run H inp).work, ∀ s ∈ w.segs, s.len = 0 → s.ent.fileLength = 0) :=
  ⟨RunV.zero_work0 H inp hload, RunV.zero_run H inp hload⟩

/-- `hwr` of the recovery theorems: in the tree `fs` the image of every non-padding segment of `w` is a regular file or
    absent with nothing in the way (not below a regular file, not a directory) -/
def PlainSegs (fs : Fs) (w : Work) : Prop :=
  ∀ s ∈ w.segs, s.ent.isPad = false → fs.look s.ent.fullTarget ≠ .notDir ∧ fs.look s.ent.fullTarget ≠ .dir

instance (fs : Fs) (w : Work) : Decidable (PlainSegs fs w) := by unfold PlainSegs; infer_instance

/-- `hnest` of the recovery theorems: no non-padding image of `table` is a proper prefix of the image of a non-padding
    segment of `w`, or the other way round -/
def NotNested (table : List TEntry) (w : Work) : Prop :=
  ∀ s ∈ w.segs, s.ent.isPad = false → ∀ e ∈ table, e.isPad = false →
    e.fullTarget ∉ Fs.properPrefixes s.ent.fullTarget ∧ s.ent.fullTarget ∉ Fs.properPrefixes e.fullTarget

/-- V3, general form (`DistinctPaths` + explicit `hnest`). In a fault-free run, a work item `w` whose data is
    available at the start in scan-only files verifies in the final tree.

    Assumed, and why:
    * `hload`  every torrent loadable — gives `SegsInRange`, `hzero` (`C06_zero_segments`), the first clause of
               `RangesDisjoint`, and `hnopanic` (`C16_run_total`);
    * `hpaths` `DistinctPaths` — gives `hsame` and `RangesDisjoint`, which fail without it
               (`C06_same_length_needs_distinct_paths`, `C06_ranges_disjoint_needs_distinct_paths`), and without `hsame`
               a recovered piece can be destroyed by a later one (`C04_run_preserved_needs_hsame`);
    * `hinj`   collision-freedom of the hash on the piece hashes of the run (SHA-1 assumption);
    * `hwf`, `hna`  the initial tree is well-formed and no export image of the run is hard-linked to another name;
    * `hfa`    no injected I/O errors (with faults the piece evaluated may end in `.fault`);
    * `hwr`    in the initial tree the image of every non-padding segment of `w` is a regular file or absent with
               nothing in the way (not below a regular file, not a directory);
    * `hnest`  no non-padding export image of the run is a proper prefix of such an image of `w` or the other way
               round. NOT derivable from `hload` and `hpaths` (`C02_run_recovered_loaded_needs_hnest`); derived from
               `PrefixFreePaths` in `C02_run_recovered_loaded`;
    * `havail` availability in scan-only files, with respect to the tree-independent table `table0 inp`. -/
theorem C02_run_recovered_loaded_nest (H : Bytes → Bytes) (inp : RunIn)
    (hload : ∀ t ∈ inp.torrents, Loadable H t) (hpaths : DistinctPaths inp.torrents)
    (hinj : HInjOn H (work0 inp)) (hwf : FsWF inp.fs) (hna : NoAlias inp.fs (table0 inp))
    (hfa : inp.faults = [])
    (w : Work) (hw : w ∈ (run H inp).work)
    (hwr : PlainSegs inp.fs w) (hnest : NotNested (table0 inp) w)
    (havail : AvailScan H inp.fs inp.scan (table0 inp) w) :
    VerE H (run H inp).fs w := by
  obtain ⟨hr, hs, hd, hi⟩ := layout_of_layoutOk H inp (C06_layout_ok H inp hload hpaths hinj)
  refine C02_run_recovered_tree H inp hfa hwf (RunV.noAlias_run H inp hna) hs hd hi w (hr w hw)
    (RunV.zero_run H inp hload w hw) (RunV.avail_run H inp havail) (C16_run_total H inp hload) hwr ?_ hw
  intro s hs' hp e he hpe
  exact hnest s hs' hp e.strip (RunR.run_table_strip H inp e he) hpe

theorem hnest_of_prefixFree (H : Bytes → Bytes) (inp : RunIn) (hpf : PrefixFreePaths inp.torrents) {w : Work}
    (hw : w ∈ (run H inp).work) : NotNested (table0 inp) w := by
  intro s hs hp e he hpe
  have hnn := RunV.notNested_table0 inp hpf
  have h1 := RunR.run_table_strip H inp _ (RunK.run_work_ent H inp w hw s hs)
  exact ⟨hnn e he s.ent.strip h1 hpe hp, hnn s.ent.strip h1 e he hp hpe⟩

/-- V3. In a fault-free run on loadable torrents with prefix-free paths, a work item whose data is available at the
    start in scan-only files verifies in the final tree. Every hypothesis is about the torrents (`hload`, `hpf`), the
    initial tree (`hwf`, `hna`, `hwr`, `havail`), the hash (`hinj`) or the absence of injected faults (`hfa`); see
    `C02_run_recovered_loaded_nest` for why each is there. `hpf` stands in for `DistinctPaths` and `hnest`. -/
theorem C02_run_recovered_loaded (H : Bytes → Bytes) (inp : RunIn)
    (hload : ∀ t ∈ inp.torrents, Loadable H t) (hpf : PrefixFreePaths inp.torrents)
    (hinj : HInjOn H (work0 inp)) (hwf : FsWF inp.fs) (hna : NoAlias inp.fs (table0 inp))
    (hfa : inp.faults = [])
    (w : Work) (hw : w ∈ (run H inp).work)
    (hwr : ∀ s ∈ w.segs, s.ent.isPad = false →
      inp.fs.look s.ent.fullTarget ≠ .notDir ∧ inp.fs.look s.ent.fullTarget ≠ .dir)
    (havail : AvailScan H inp.fs inp.scan (table0 inp) w) :
    VerE H (run H inp).fs w :=
  C02_run_recovered_loaded_nest H inp hload hpf.distinct hinj hwf hna hfa w hw hwr (hnest_of_prefixFree H inp hpf hw)
    havail

/-- V3 with the work items quantified tree-independently: every member `w0` of `work0 inp` (the pieces of the torrents,
    no candidate lists) whose data is available verifies in the final tree — provided the run reaches piece evaluation
    (`hreach`: its work list is not empty, i.e. it was not stopped by the validation of the directories or by the resize
    pre-flight; this is the one premise about the run itself, and it cannot be dropped: a run that stops in validation
    writes nothing). The other hypotheses as in `C02_run_recovered_loaded`, stated for `w0`. -/
theorem C02_run_recovered_loaded0 (H : Bytes → Bytes) (inp : RunIn)
    (hload : ∀ t ∈ inp.torrents, Loadable H t) (hpf : PrefixFreePaths inp.torrents)
    (hinj : HInjOn H (work0 inp)) (hwf : FsWF inp.fs) (hna : NoAlias inp.fs (table0 inp))
    (hfa : inp.faults = []) (hreach : (run H inp).work ≠ [])
    (w0 : Work) (hw0 : w0 ∈ work0 inp)
    (hwr : ∀ s ∈ w0.segs, s.ent.isPad = false →
      inp.fs.look s.ent.fullTarget ≠ .notDir ∧ inp.fs.look s.ent.fullTarget ≠ .dir)
    (havail : AvailScan H inp.fs inp.scan (table0 inp) w0) :
    VerE H (run H inp).fs w0 := by
  rcases RunR.run_work_strip H inp with h | h
  · exact absurd h hreach
  · rw [h] at hw0
    obtain ⟨w, hw, rfl⟩ := List.mem_map.1 hw0
    rw [RunR.verE_strip]
    exact C02_run_recovered_loaded H inp hload hpf hinj hwf hna hfa w hw
      (fun s hs hp => hwr s.strip (RunV.mem_strip_segs hs) hp)
      (RunV.avail_congr (RunV.avKey_strip w).symm havail)

/-- V3 for every available work item at once, with the counters: nothing is counted as failed, and every work item
    verifies in the final tree -/
theorem C02_run_all_recovered_loaded (H : Bytes → Bytes) (inp : RunIn)
    (hload : ∀ t ∈ inp.torrents, Loadable H t) (hpf : PrefixFreePaths inp.torrents)
    (hinj : HInjOn H (work0 inp)) (hwf : FsWF inp.fs) (hna : NoAlias inp.fs (table0 inp))
    (hfa : inp.faults = [])
    (hwr : ∀ w ∈ (run H inp).work, ∀ s ∈ w.segs, s.ent.isPad = false →
      inp.fs.look s.ent.fullTarget ≠ .notDir ∧ inp.fs.look s.ent.fullTarget ≠ .dir)
    (havail : ∀ w ∈ (run H inp).work, AvailScan H inp.fs inp.scan (table0 inp) w) :
    (∀ w ∈ (run H inp).work, VerE H (run H inp).fs w) ∧ (∀ c ∈ (run H inp).counters, c.failed = 0) :=
  ⟨fun w hw => C02_run_recovered_loaded H inp hload hpf hinj hwf hna hfa w hw (hwr w hw) (havail w hw),
    C02_run_none_failed H inp hwf (fun w hw => RunV.avail_run H inp (havail w hw))⟩

/-- the static table and work list of the second run are those of the first -/
theorem resumeIn_table0 (H : Bytes → Bytes) (inp : RunIn) (n : Nat) (obs' : List (Nat × List Path))
    (ord' : List (List (Nat × Nat × Nat) × Bytes)) (flts' : List Nat) :
    table0 (resumeIn H inp n obs' ord' flts') = table0 inp ∧ work0 (resumeIn H inp n obs' ord' flts') = work0 inp :=
  ⟨rfl, rfl⟩

/-- V4, general form (`DistinctPaths` + explicit `hnest`): a fault-free second run on the tree left by the first run
    `inp` (fault points anywhere) interrupted after `n` logged operations recovers every work item whose data was
    available in scan-only files BEFORE THE FIRST RUN. All tree hypotheses (`hwf`, `hna`, `hwr`, `havail`) are about the
    tree before the first run; `hload`, `hpaths`, `hinj`, `hnest` are about the torrents and the hash (both runs load
    the same torrents). See `C02_run_recovered_loaded_nest` for why each is there. -/
theorem C11_resume_recovers_loaded_nest (H : Bytes → Bytes) (inp : RunIn) (n : Nat) (obs' : List (Nat × List Path))
    (ord' : List (List (Nat × Nat × Nat) × Bytes))
    (hload : ∀ t ∈ inp.torrents, Loadable H t) (hpaths : DistinctPaths inp.torrents)
    (hinj : HInjOn H (work0 inp)) (hwf : FsWF inp.fs) (hna : NoAlias inp.fs (table0 inp))
    (w : Work) (hw : w ∈ (run H (resumeIn H inp n obs' ord' [])).work)
    (hwr : PlainSegs inp.fs w) (hnest : NotNested (table0 inp) w)
    (havail : AvailScan H inp.fs inp.scan (table0 inp) w) :
    VerE H (run H (resumeIn H inp n obs' ord' [])).fs w := by
  obtain ⟨hr, hs, hd, hi⟩ :=
    layout_of_layoutOk H _ (C06_layout_ok H (resumeIn H inp n obs' ord' []) hload hpaths hinj)
  exact C11_resume_recovers_tree H inp n obs' ord' hwf hna hs hd hi w hw (hr w hw)
    (RunV.zero_run H (resumeIn H inp n obs' ord' []) hload w hw) havail
    (C16_run_total H (resumeIn H inp n obs' ord' []) hload) hwr hnest

/-- V4. The same with `PrefixFreePaths` in place of `DistinctPaths` and `hnest`. -/
theorem C11_resume_recovers_loaded (H : Bytes → Bytes) (inp : RunIn) (n : Nat) (obs' : List (Nat × List Path))
    (ord' : List (List (Nat × Nat × Nat) × Bytes))
    (hload : ∀ t ∈ inp.torrents, Loadable H t) (hpf : PrefixFreePaths inp.torrents)
    (hinj : HInjOn H (work0 inp)) (hwf : FsWF inp.fs) (hna : NoAlias inp.fs (table0 inp))
    (w : Work) (hw : w ∈ (run H (resumeIn H inp n obs' ord' [])).work)
    (hwr : ∀ s ∈ w.segs, s.ent.isPad = false →
      inp.fs.look s.ent.fullTarget ≠ .notDir ∧ inp.fs.look s.ent.fullTarget ≠ .dir)
    (havail : AvailScan H inp.fs inp.scan (table0 inp) w) :
    VerE H (run H (resumeIn H inp n obs' ord' [])).fs w :=
  C11_resume_recovers_loaded_nest H inp n obs' ord' hload hpf.distinct hinj hwf hna w hw hwr
    (hnest_of_prefixFree H (resumeIn H inp n obs' ord' []) hpf hw) havail

/-- `fs'` extends `fs`: every binding `(p, i)` of `fs` is a binding of `fs'`, the inode has the same content, every
    directory of `fs` is a directory of `fs'`, and both trees are well-formed. (`fs'` may have more files, more
    directories, more hard links, other contents for inodes not bound in `fs`.) -/
structure TreeExtends (fs fs' : Fs) : Prop where
  files : ∀ p i, (p, i) ∈ fs.files → (p, i) ∈ fs'.files
  content : ∀ p i, (p, i) ∈ fs.files → fs'.content i = fs.content i
  dirs : ∀ d, fs.isDir d = true → fs'.isDir d = true
  wf : FsWF fs
  wf' : FsWF fs'

theorem TreeExtends.refl {fs : Fs} (h : FsWF fs) : TreeExtends fs fs :=
  ⟨fun _ _ h => h, fun _ _ _ => rfl, fun _ h => h, h, h⟩

theorem TreeExtends.inoOf {fs fs' : Fs} (h : TreeExtends fs fs') {p : Path} {i : Nat} (hp : fs.inoOf p = some i) :
    fs'.inoOf p = some i :=
  RunF.look_file_inoOf (RunI.look_of_mem h.wf' (h.files p i (RunF.inoOf_mem hp)))

/-- no export image of `table` acquires, in `fs'`, an inode that had a name in `fs`: if a non-padding image is bound
    in `fs'` to an inode `i` that is bound to some name in `fs`, the image was bound to `i` in `fs` already.
    (Weaker than "`fs'.inoOf e.fullTarget = fs.inoOf e.fullTarget` for every image": images may be created in `fs'`
    with new inodes. What it excludes: the larger tree contains an export image that is a hard link to an old file —
    that file is then not a scan-only file.) -/
def NoNewImageAlias (fs fs' : Fs) (table : List TEntry) : Prop :=
  ∀ e ∈ table, e.isPad = false → ∀ i, fs'.inoOf e.fullTarget = some i → (∃ p, (p, i) ∈ fs.files) →
    fs.inoOf e.fullTarget = some i

theorem NoNewImageAlias.of_eq {fs fs' : Fs} {table : List TEntry}
    (h : ∀ e ∈ table, e.isPad = false → fs'.inoOf e.fullTarget = fs.inoOf e.fullTarget) :
    NoNewImageAlias fs fs' table := by
  intro e he hp i hi _
  rw [← h e he hp]; exact hi

/-- V5a. Availability in scan-only files is monotone in the tree and in the scan directories: if it holds in `fs` with
    scan directories `scan`, it holds in every extension `fs'` of `fs` with every `scan' ⊇ scan`, provided no export
    image of the table acquires an alias to an old file (`NoNewImageAlias`; without it the statement is false:
    `AvailScan_tree_mono_needs_noNewAlias`). Of `TreeExtends` only the `files` and `content` clauses are used. -/
theorem AvailScan_tree_mono (H : Bytes → Bytes) (fs fs' : Fs) (scan scan' : List PathArg) (table : List TEntry)
    (w : Work) (hext : TreeExtends fs fs') (hscan : ∀ d ∈ scan, d ∈ scan')
    (hnew : NoNewImageAlias fs fs' table) (ha : AvailScan H fs scan table w) :
    AvailScan H fs' scan' table w :=
  RunV.avail_tree_mono hext.files hext.content hscan hnew ha

/-- V5b. Availability with respect to `table` gives availability with respect to any table whose non-padding export
    images are among those of `table` (a SMALLER table): fewer images to stay clear of. -/
theorem AvailScan_smaller_table (H : Bytes → Bytes) (fs : Fs) (scan : List PathArg) (table table' : List TEntry)
    (w : Work)
    (hsub : ∀ e' ∈ table', e'.isPad = false → ∃ e ∈ table, e.isPad = false ∧ e.fullTarget = e'.fullTarget)
    (ha : AvailScan H fs scan table w) : AvailScan H fs scan table' w :=
  RunV.avail_table_sub hsub ha

/-- V5b for runs: a run `inp'` with the same export directory and FEWER torrents than `inp` (every torrent `inp'` keeps
    after sorting and dropping repeated info-hashes is kept by `inp`; `RunV.kept_of_subset`: this holds if
    `inp'.torrents ⊆ inp.torrents` and the info-hashes of `inp.torrents` are pairwise distinct) -/
theorem AvailScan_fewer_torrents (H : Bytes → Bytes) (inp inp' : RunIn) (fs : Fs) (scan : List PathArg) (w : Work)
    (hdir : inp'.exportDir.path = inp.exportDir.path)
    (hsub : ∀ t ∈ dedupTorrents (sortTorrents inp'.torrents), t ∈ dedupTorrents (sortTorrents inp.torrents))
    (ha : AvailScan H fs scan (table0 inp) w) : AvailScan H fs scan (table0 inp') w :=
  RunV.avail_table_sub (RunV.table0_images_sub hdir hsub) ha

/-- V5c. For a LARGER table what is needed is exactly the inode clause of `AvailScan` for the added entries: the
    files the data sits in must not be (hard links of) export images of the added torrents. A sufficient condition
    in terms of the tree: every non-padding image of `table'` is an image of `table` or is not bound to a regular
    file in `fs` (the added torrents have no export files yet). -/
theorem AvailScan_larger_table (H : Bytes → Bytes) (fs : Fs) (scan : List PathArg) (table table' : List TEntry)
    (w : Work)
    (hadd : ∀ e' ∈ table', e'.isPad = false →
      (∃ e ∈ table, e.isPad = false ∧ e.fullTarget = e'.fullTarget) ∨ fs.inoOf e'.fullTarget = none)
    (ha : AvailScan H fs scan table w) : AvailScan H fs scan table' w :=
  RunQ.Avail.mono (fun p i d hmem hd hout => ⟨hmem, hd, rfl, fun e' he' hpe' => by
    rcases hadd e' he' hpe' with ⟨e, he, hpe, heq⟩ | hnone
    · rw [← heq]; exact hout e he hpe
    · rw [hnone]; exact nofun⟩) ha

/-- `AvailScan` is a property of the ranges, padding flags, declared file lengths and hash of the work item: work
    items of two runs that agree on these (`RunV.avKey`; e.g. the same piece of the same torrent in a run that loads
    more torrents — entry ids and candidate lists differ) are available together -/
theorem AvailScan_congr (H : Bytes → Bytes) (fs : Fs) (scan : List PathArg) (table : List TEntry) (w w' : Work)
    (hkey : RunV.avKey w' = RunV.avKey w) (ha : AvailScan H fs scan table w) : AvailScan H fs scan table w' :=
  RunV.avail_congr hkey ha

/-- V5, the guarantee T1 is monotone: "adding readable candidate files, scan directories or torrents never reduces what
    is guaranteed not to be reported as not found".

    `inp` is the smaller world, `inp'` the larger one: its tree extends `inp.fs` (`TreeExtends`: more files, more
    directories), it has at least the scan directories of `inp`, and ANY torrents (typically more). If the data of
    `w` is available in scan-only files of the SMALLER world, with respect to the table of the LARGER world (`havail`:
    the files the data sits in are not export images of the larger run either — the inode clause of `AvailScan`; for the
    torrents both runs load this is `AvailScan_fewer_torrents` read backwards, for added torrents it holds e.g. when
    they have no export files yet, `AvailScan_larger_table`), and no export image of the larger run acquires an alias
    to an old file (`hnew`), then the larger run does not answer `.notFound` for `w`, wherever `w` stands in its
    evaluation order and whatever its fault points. `w` is a work item of the LARGER run (`hord`); the corresponding
    work item of the smaller run has the same `RunV.avKey`, so `AvailScan_congr` carries availability over. -/
theorem C17_more_candidates (H : Bytes → Bytes) (inp inp' : RunIn) (hext : TreeExtends inp.fs inp'.fs)
    (hscan : ∀ d ∈ inp.scan, d ∈ inp'.scan) (hnew : NoNewImageAlias inp.fs inp'.fs (table0 inp'))
    (w : Work) (havail : AvailScan H inp.fs inp.scan (table0 inp') w)
    (pre post : List Work) (hord : RunQ.evalOrder (run H inp').work inp'.order = pre ++ w :: post) :
    (solvePiece H (solveAll H (runSt3 inp') pre ⟨0, 0, 0⟩ []).1 w).2 ≠ .notFound :=
  C02_run_not_failed H inp' hext.wf' w
    (RunV.avail_run H inp' (RunV.avail_tree_mono hext.files hext.content hscan hnew havail)) pre post hord

/-- V5, the guarantee T2 is monotone: under the hypotheses of `C02_run_recovered_loaded` for the LARGER world — except
    that availability is only assumed in the SMALLER world — the work item verifies in the final tree of the larger
    run. `hext`, `hscan`, `hnew`, `havail` as in `C17_more_candidates`; the rest as in `C02_run_recovered_loaded` for
    `inp'` (`FsWF inp'.fs` is part of `hext`). -/
theorem C17_more_candidates_recovered (H : Bytes → Bytes) (inp inp' : RunIn) (hext : TreeExtends inp.fs inp'.fs)
    (hscan : ∀ d ∈ inp.scan, d ∈ inp'.scan) (hnew : NoNewImageAlias inp.fs inp'.fs (table0 inp'))
    (hload : ∀ t ∈ inp'.torrents, Loadable H t) (hpf : PrefixFreePaths inp'.torrents)
    (hinj : HInjOn H (work0 inp')) (hna : NoAlias inp'.fs (table0 inp')) (hfa : inp'.faults = [])
    (w : Work) (hw : w ∈ (run H inp').work)
    (hwr : ∀ s ∈ w.segs, s.ent.isPad = false →
      inp'.fs.look s.ent.fullTarget ≠ .notDir ∧ inp'.fs.look s.ent.fullTarget ≠ .dir)
    (havail : AvailScan H inp.fs inp.scan (table0 inp') w) :
    VerE H (run H inp').fs w :=
  C02_run_recovered_loaded H inp' hload hpf hinj hext.wf' hna hfa w hw hwr
    (RunV.avail_tree_mono hext.files hext.content hscan hnew havail)

/-- `TreeExtends` in a form `decide` can check on concrete trees -/
theorem TreeExtends.of_check {fs fs' : Fs} (h1 : ∀ e ∈ fs.files, e ∈ fs'.files)
    (h2 : ∀ e ∈ fs.files, fs'.content e.2 = fs.content e.2) (h3 : ∀ d ∈ fs.dirs, d ∈ fs'.dirs)
    (wf : FsWF fs) (wf' : FsWF fs') : TreeExtends fs fs' := by
  refine ⟨fun p i h => h1 (p, i) h, fun p i h => h2 (p, i) h, ?_, wf, wf'⟩
  intro d hd
  unfold Fs.isDir at hd ⊢
  rw [Bool.or_eq_true] at hd ⊢
  rcases hd with hd | hd
  · exact .inl hd
  · exact .inr (List.contains_iff_mem.2 (h3 d (List.contains_iff_mem.1 hd)))

/-! ### worlds: what is evaluated, and what follows from it

  The work items of the worlds below are defined as members of the work list of a run. A fact about such a work
  item that does not look at candidate lists (availability, the `look` conditions, the ranges) is evaluated on the
  corresponding member of `work0` — a function of the torrents, far cheaper than the run — and carried over. -/

theorem List.eq_singleton_headD {α : Type} [Inhabited α] : ∀ {l : List α}, l.length = 1 → l = [l.headD default]
  | [_], _ => rfl

theorem List.eq_headD_cons {α : Type} [Inhabited α] :
    ∀ {l : List α} {n : Nat}, l.length = n + 1 → l = l.headD default :: l.drop 1
  | _ :: _, _, _ => rfl

theorem List.headD_mem {α : Type} [Inhabited α] : ∀ {l : List α} {n : Nat}, l.length = n + 1 → l.headD default ∈ l
  | _ :: _, _, _ => .head _

theorem head_strip {H : Bytes → Bytes} {inp : RunIn} {w : Work} {ws : List Work} (hw : (run H inp).work = w :: ws) :
    w.strip = (work0 inp).headD default := by
  rcases RunR.run_work_strip H inp with h | h
  · rw [hw] at h; cases h
  · rw [h, hw]; rfl

theorem avail_head {H : Bytes → Bytes} {inp : RunIn} {w : Work} {ws : List Work} (hw : (run H inp).work = w :: ws)
    {fs : Fs} {scan : List PathArg} {table : List TEntry}
    (h : AvailScan H fs scan table ((work0 inp).headD default)) : AvailScan H fs scan table w := by
  rw [← head_strip hw] at h
  exact RunV.avail_congr (RunV.avKey_strip w).symm h

theorem hwr_head {H : Bytes → Bytes} {inp : RunIn} {w : Work} {ws : List Work} (hw : (run H inp).work = w :: ws)
    {fs : Fs} (h : PlainSegs fs ((work0 inp).headD default)) : PlainSegs fs w := by
  rw [← head_strip hw] at h
  exact fun s hs => h s.strip (RunV.mem_strip_segs hs)

/-- the three checks of `RunQ.avail_of_check` (one witness `(p, i, d)` per segment) as one decidable proposition -/
def AvailCheck (H : Bytes → Bytes) (fs : Fs) (scan : List PathArg) (table : List TEntry) (w : Work)
    (wit : List (Path × Nat × PathArg)) : Prop :=
  wit.length = w.segs.length ∧ (∀ y ∈ List.zip w.segs wit, RunQ.AvailSegOk fs scan table y.1 y.2) ∧
    H ((List.zip w.segs wit).map (fun y => RunQ.availPart fs y.1 y.2)).flatten = w.hash

instance (H : Bytes → Bytes) (fs : Fs) (scan : List PathArg) (table : List TEntry) (w : Work)
    (wit : List (Path × Nat × PathArg)) : Decidable (AvailCheck H fs scan table w wit) := by
  unfold AvailCheck; infer_instance

theorem AvailCheck.avail {H : Bytes → Bytes} {fs : Fs} {scan : List PathArg} {table : List TEntry} {w : Work}
    {wit : List (Path × Nat × PathArg)} (h : AvailCheck H fs scan table w wit) : AvailScan H fs scan table w :=
  RunQ.avail_of_check wit h.1 h.2.1 h.2.2

/-! ### non-vacuity: a loadable world in which every hypothesis of V3, V4, V5 holds (`H = id`)

  One multi-file torrent, piece length 20, ONE piece (`pieces` = 20 bytes; with `H = id` the piece hash is the piece):
    `x` (11 bytes), `z` (EMPTY), `.pad/1` (1 byte, padding), `y` (8 bytes).
  The piece has a segment of `x`, a zero-length segment of `z`, a padding segment and a segment of `y`. The scan
  directory `s` holds `s/p` (the 11 bytes of `x`) and `s/q` (the 8 bytes of `y`); the export directory `e` is empty. -/

namespace TopEx

def piece : Bytes := [1, 2, 3, 4, 5, 6, 7, 8, 9, 10, 11, 0, 13, 14, 15, 16, 17, 18, 19, 20]
def fileX : BVal := .dict [(kLength, .int 11), (kPath, .list [.str [120]])]
def fileZ : BVal := .dict [(kLength, .int 0), (kPath, .list [.str [122]])]
def fileP : BVal := .dict [(kLength, .int 1), (kPath, .list [.str sPad, .str [49]])]
def fileY : BVal := .dict [(kLength, .int 8), (kPath, .list [.str [121]])]
def infod : List (Bytes × BVal) :=
  [(kFiles, .list [fileX, fileZ, fileP, fileY]), (kName, .str [110]), (kPieceLength, .int 20), (kPieces, .str piece)]
def root : BVal := .dict [(kInfo, .dict infod)]
def info : Info := ⟨[110], none, some [⟨11, [[120]]⟩, ⟨0, [[122]]⟩, ⟨1, [sPad, [49]]⟩, ⟨8, [[121]]⟩], 20, [piece]⟩
def tor : Torrent := ⟨info, encode (.dict infod)⟩
def eDir : Path := [[101]]
def sDir : Path := [[115]]
def tDir : Path := [[116]]
def sp : Path := sDir ++ [[112]]
def sq : Path := sDir ++ [[113]]
def tr : Path := tDir ++ [[114]]
def fs0 : Fs :=
  { files := [(sp, 0), (sq, 1)], dirs := [eDir, sDir], data := [(0, piece.take 11), (1, piece.drop 12)], next := 2 }
def inp : RunIn :=
  { fs := fs0, torrents := [tor], scan := [⟨true, sDir⟩], exportDir := ⟨true, eDir⟩, resize := false,
    searchObs := [], order := [], faults := [] }

/-- the first run of V4: operation 19 (the seek before the write of `z`) fails; the piece ends in `.fault` -/
def inpF : RunIn := { inp with faults := [19] }

/-- the only work item of the run -/
def w0 : Work := (run id inp).work.headD default

/-- non-vacuity of `C02_run_recovered_loaded0`: the same piece taken from `work0 inp` (no candidate lists) -/
def w00 : Work := (work0 inp).headD default

/-- where the data of the four segments sits: `x` in `(s/p, 0)`, `y` in `(s/q, 1)`; the witnesses of the zero-length
    and the padding segment are ignored -/
def wit : List (Path × Nat × PathArg) :=
  [(sp, 0, ⟨true, sDir⟩), default, default, (sq, 1, ⟨true, sDir⟩)]

/-- the work item of the second run of V4, started on the tree left after 17 logged operations of the first run (the
    image of `x` is written, `z` and `y` are not): its entry of `x` now has two candidates -/
def w0' : Work := (run id (resumeIn id inpF 17 [] [] [])).work.headD default

/-- what is evaluated about the torrent (the two checks of `Loadable.of_info`) and the runs on the tree `fs0` (the run
    on `inp`; the first run of V4 and the work list of the second), in ONE evaluation: most of the kernel's work on any
    of these facts is common to all of them (the info-hash `encode (.dict infod)`, which every table lookup compares;
    the table; the scan), and the kernel shares work inside one declaration only -/
theorem evaluated :
    (canon root = true ∧ specInfo infod = some info) ∧
    ((run id inp).work.length = 1 ∧
      AvailCheck id inp.fs inp.scan (table0 inp) w00 wit ∧ PlainSegs inp.fs w00 ∧
      w0.segs.map (fun s => (s.ent.fileIndex, s.off, s.len, s.ent.isPad))
        = [(0, 0, 11, false), (1, 0, 0, false), (2, 0, 1, true), (3, 0, 8, false)] ∧
      w0.segs.mapM (segBytesIn inp.fs) = none) ∧
    (run id inpF).counters = [⟨0, 0, 1⟩] ∧ (run id (resumeIn id inpF 17 [] [] [])).work.length = 1 := by
  decide +kernel

/-- the document `encode root` loads as `tor` -/
theorem loadable : Loadable id tor := Loadable.of_info evaluated.1.1 evaluated.1.2

theorem loadable_all : ∀ t ∈ inp.torrents, Loadable id t := List.forall_mem_singleton.2 loadable

theorem prefixFree : PrefixFreePaths inp.torrents := by
  apply PrefixFreePaths.of_check
  intro t ht fs hfs
  cases List.mem_singleton.1 ht
  cases hfs
  decide +kernel

theorem hinj : HInjOn id (work0 inp) := HInjOn_id _

theorem wf : FsWF inp.fs := by decide +kernel

theorem noAlias : NoAlias inp.fs (table0 inp) := RunJ.NoAl.of_check fs0 _ (by decide +kernel)

theorem run_work : (run id inp).work = [w0] := List.eq_singleton_headD evaluated.2.1.1
theorem w0_mem : w0 ∈ (run id inp).work := List.headD_mem evaluated.2.1.1

theorem avail00 : AvailScan id inp.fs inp.scan (table0 inp) w00 := evaluated.2.1.2.1.avail
theorem hwr00 : PlainSegs inp.fs w00 := evaluated.2.1.2.2.1

theorem avail : AvailScan id inp.fs inp.scan (table0 inp) w0 := avail_head run_work avail00

theorem hwr : ∀ s ∈ w0.segs, s.ent.isPad = false →
    inp.fs.look s.ent.fullTarget ≠ .notDir ∧ inp.fs.look s.ent.fullTarget ≠ .dir :=
  hwr_head run_work hwr00

example : w0.segs.map (fun s => (s.ent.fileIndex, s.off, s.len, s.ent.isPad))
    = [(0, 0, 11, false), (1, 0, 0, false), (2, 0, 1, true), (3, 0, 8, false)] := evaluated.2.1.2.2.2.1

/-- the piece does not verify before the run (the export directory is empty) … -/
example : w0.segs.mapM (segBytesIn inp.fs) = none := evaluated.2.1.2.2.2.2

/-- … and verifies after it: non-vacuity of V3 (`C02_run_recovered_loaded`) — every hypothesis holds in this world -/
example : VerE id (run id inp).fs w0 :=
  C02_run_recovered_loaded id inp loadable_all prefixFree hinj wf noAlias rfl w0 w0_mem hwr avail

example : VerE id (run id inp).fs w00 :=
  C02_run_recovered_loaded0 id inp loadable_all prefixFree hinj wf noAlias rfl (List.ne_nil_of_mem w0_mem) w00
    (by rw [w00, ← head_strip run_work]; exact RunR.run_work_strip_mem id inp w0 w0_mem) hwr00 avail00

/-- non-vacuity of V2 (`C04_run_preserved_loaded`, `C01_bytes_loaded`): the hypotheses hold here as well -/
example : BytesOk id (run id inp).work inp.fs (run id inp).fs :=
  C01_bytes_loaded id inp wf noAlias loadable_all prefixFree.distinct

/-! #### V4: a first run with a fault point, interrupted; the second run recovers the piece -/

example : (run id inpF).counters = [⟨0, 0, 1⟩] := evaluated.2.2.1

theorem resume_work : (run id (resumeIn id inpF 17 [] [] [])).work = [w0'] := List.eq_singleton_headD evaluated.2.2.2

/-- stated once: comparing `work0` of the two inputs by unfolding makes the kernel evaluate the first run -/
theorem resume_work0 : work0 (resumeIn id inpF 17 [] [] []) = work0 inp := (resumeIn_table0 id inpF 17 [] [] []).2

theorem avail' : AvailScan id inpF.fs inpF.scan (table0 inpF) w0' :=
  avail_head resume_work (by rw [resume_work0]; exact avail00)

theorem hwr' : ∀ s ∈ w0'.segs, s.ent.isPad = false →
    inpF.fs.look s.ent.fullTarget ≠ .notDir ∧ inpF.fs.look s.ent.fullTarget ≠ .dir :=
  hwr_head resume_work (by rw [resume_work0]; exact hwr00)

/-- non-vacuity of V4 (`C11_resume_recovers_loaded`) -/
example : VerE id (run id (resumeIn id inpF 17 [] [] [])).fs w0' :=
  C11_resume_recovers_loaded id inpF 17 [] [] loadable_all prefixFree hinj wf noAlias w0'
    (List.headD_mem evaluated.2.2.2) hwr' avail'

/-! #### V5: a larger world — one more file, one more scan directory, one more torrent -/

/-- the larger tree: additionally the directory `t` with `t/r`, 11 bytes that are NOT the content of `x` -/
def fsL : Fs :=
  { files := [(sp, 0), (sq, 1), (tr, 2)], dirs := [eDir, sDir, tDir],
    data := [(0, piece.take 11), (1, piece.drop 12), (2, List.replicate 11 9)], next := 3 }

/-- the larger run: scan directories `s` and `t`, and additionally the (single-file, not loadable — T1 does not ask
    for it) torrent of `RunQ.Ex` -/
def inpL : RunIn := { inp with fs := fsL, scan := [⟨true, sDir⟩, ⟨true, tDir⟩], torrents := [tor, RunQ.Ex.tor] }

/-- the work item of the larger run for the piece of `tor` (three work items: this one and the two of `RunQ.Ex.tor`) -/
def wL : Work := (run id inpL).work.headD default

/-- the larger world with the torrents of the smaller one (all loadable): more files, more scan directories -/
def inpM : RunIn := { inp with fs := fsL, scan := [⟨true, sDir⟩, ⟨true, tDir⟩] }
def wM : Work := (run id inpM).work.headD default

theorem wfL : FsWF fsL := by decide +kernel

theorem ext : TreeExtends inp.fs inpL.fs :=
  TreeExtends.of_check (by decide +kernel) (by decide +kernel) (by decide +kernel) wf wfL

theorem scanL : ∀ d ∈ inp.scan, d ∈ inpL.scan := by decide +kernel

theorem hnewL : NoNewImageAlias inp.fs inpL.fs (table0 inpL) := NoNewImageAlias.of_eq (by decide +kernel)

/-- the two runs on the larger tree, in one evaluation (see `evaluated`) -/
theorem evaluatedL :
    ((run id inpL).work.length = 3 ∧
      wL.segs.map (fun s => (s.ent.fileIndex, s.off, s.len, s.ent.isPad, s.ent.searches.map (·.length)))
        = [(0, 0, 11, false, some 2), (1, 0, 0, false, none), (2, 0, 1, true, none), (3, 0, 8, false, some 1)] ∧
      AvailCheck id inp.fs inp.scan (table0 inpL) ((work0 inpL).headD default) wit) ∧
    (run id inpM).work.length = 1 ∧ PlainSegs inpM.fs w00 := by decide +kernel

example : (run id inpL).work.length = 3 := evaluatedL.1.1
example : wL.segs.map (fun s => (s.ent.fileIndex, s.off, s.len, s.ent.isPad, s.ent.searches.map (·.length)))
    = [(0, 0, 11, false, some 2), (1, 0, 0, false, none), (2, 0, 1, true, none), (3, 0, 8, false, some 1)] :=
  evaluatedL.1.2.1

theorem run_workL : (run id inpL).work = wL :: (run id inpL).work.drop 1 :=
  List.eq_headD_cons evaluatedL.1.1

/-- with nothing observed the pieces are evaluated last first -/
theorem ordL : RunQ.evalOrder (run id inpL).work inpL.order = ((run id inpL).work.drop 1).reverse ++ wL :: [] := by
  obtain ⟨ws, hw⟩ : ∃ ws, (run id inpL).work = wL :: ws := ⟨_, run_workL⟩
  rw [hw]
  exact List.reverse_cons ..

/-- availability in the SMALLER tree with the scan directories of the smaller run, with respect to the table of the
    LARGER run -/
theorem availL : AvailScan id inp.fs inp.scan (table0 inpL) wL :=
  avail_head run_workL evaluatedL.1.2.2.avail

/-- non-vacuity of V5 (`C17_more_candidates`) -/
example : (solvePiece id (solveAll id (runSt3 inpL) ((run id inpL).work.drop 1).reverse ⟨0, 0, 0⟩ []).1 wL).2
    ≠ .notFound :=
  C17_more_candidates id inp inpL ext scanL hnewL wL availL _ [] ordL

theorem run_workM : (run id inpM).work = [wM] := List.eq_singleton_headD evaluatedL.2.1

/-- non-vacuity of `C17_more_candidates_recovered`: availability is only assumed in the smaller world -/
example : VerE id (run id inpM).fs wM :=
  C17_more_candidates_recovered id inp inpM ext scanL (NoNewImageAlias.of_eq (by decide +kernel))
    loadable_all prefixFree hinj (RunJ.NoAl.of_check fsL _ (by decide +kernel)) rfl wM
    (List.headD_mem evaluatedL.2.1) (hwr_head run_workM evaluatedL.2.2)
    (avail_head run_workM avail00)

end TopEx

/-! ### `hnest` cannot be derived from `Loadable` and `DistinctPaths`

  The torrent of `TopEx` with other paths: `a` (12 bytes), `a/b` (EMPTY), `c` (8 bytes); piece length 20, one piece.
  `Loadable` and `DistinctPaths` hold (`a ≠ a/b`), `PrefixFreePaths` does not. The scan directory holds the data of `a`
  and of `c`; the export directory is empty. The run matches the piece, writes the image of `a` as a regular file, and
  then `create_dir_all` of the parent of `a/b` — the path of that regular file — fails: the piece ends in `.fault`, the
  image of `a/b` does not exist (ENOTDIR), the piece does not verify. Every hypothesis of
  `C02_run_recovered_loaded_nest` other than `hnest` holds. -/

namespace NestCex
open TopEx (eDir sDir sp sq)

def piece : Bytes := [1, 2, 3, 4, 5, 6, 7, 8, 9, 10, 11, 12, 13, 14, 15, 16, 17, 18, 19, 20]
def fileA : BVal := .dict [(kLength, .int 12), (kPath, .list [.str [97]])]
def fileAB : BVal := .dict [(kLength, .int 0), (kPath, .list [.str [97], .str [98]])]
def fileC : BVal := .dict [(kLength, .int 8), (kPath, .list [.str [99]])]
def infod : List (Bytes × BVal) :=
  [(kFiles, .list [fileA, fileAB, fileC]), (kName, .str [110]), (kPieceLength, .int 20), (kPieces, .str piece)]
def root : BVal := .dict [(kInfo, .dict infod)]
def info : Info := ⟨[110], none, some [⟨12, [[97]]⟩, ⟨0, [[97], [98]]⟩, ⟨8, [[99]]⟩], 20, [piece]⟩
def tor : Torrent := ⟨info, encode (.dict infod)⟩
def fs0 : Fs :=
  { files := [(sp, 0), (sq, 1)], dirs := [eDir, sDir], data := [(0, piece.take 12), (1, piece.drop 12)], next := 2 }
def inp : RunIn :=
  { fs := fs0, torrents := [tor], scan := [⟨true, sDir⟩], exportDir := ⟨true, eDir⟩, resize := false,
    searchObs := [], order := [], faults := [] }

theorem distinct : DistinctPaths inp.torrents := by
  apply DistinctPaths.of_check
  intro t ht fs hfs
  cases List.mem_singleton.1 ht
  cases hfs
  decide +kernel

theorem not_prefixFree : ¬ PrefixFreePaths inp.torrents := by
  intro h
  exact h tor (by simp [inp]) _ rfl 0 1 ⟨12, [[97]]⟩ ⟨0, [[97], [98]]⟩ rfl rfl (by decide) (by decide +kernel) (by decide +kernel)
    ⟨[[98]], rfl⟩

theorem wf : FsWF inp.fs := by decide +kernel

theorem noAlias : NoAlias inp.fs (table0 inp) := RunJ.NoAl.of_check fs0 _ (by decide +kernel)

def w0 : Work := (run id inp).work.headD default

def wit : List (Path × Nat × PathArg) := [(sp, 0, ⟨true, sDir⟩), default, (sq, 1, ⟨true, sDir⟩)]

/-- what is evaluated about the torrent and the run, in one evaluation (see `TopEx.evaluated`): the two checks of
    `Loadable.of_info`, the hypotheses about the work item,
    and that the piece is matched, ends in an I/O error of the writer and does not verify afterwards -/
theorem evaluated :
    (canon root = true ∧ specInfo infod = some info) ∧
    (run id inp).work.length = 1 ∧
    AvailCheck id inp.fs inp.scan (table0 inp) w0 wit ∧ PlainSegs inp.fs w0 ∧
    w0.segs.map (fun s => (s.ent.fileIndex, s.off, s.len, s.ent.isPad))
      = [(0, 0, 12, false), (1, 0, 0, false), (2, 0, 8, false)] ∧
    (run id inp).counters = [⟨0, 0, 1⟩] ∧
    ¬ VerE id (run id inp).fs w0 := by decide +kernel

example : w0.segs.map (fun s => (s.ent.fileIndex, s.off, s.len, s.ent.isPad))
    = [(0, 0, 12, false), (1, 0, 0, false), (2, 0, 8, false)] := evaluated.2.2.2.2.1

theorem loadable : Loadable id tor := Loadable.of_info evaluated.1.1 evaluated.1.2

/-- the piece is matched and ends in an I/O error of the writer -/
theorem counters : (run id inp).counters = [⟨0, 0, 1⟩] := evaluated.2.2.2.2.2.1

end NestCex

/-- V3 with `DistinctPaths` but without `hnest` is FALSE (world `NestCex`, `H = id`): a loadable torrent listing `a` and
    `a/b`. This is why `C02_run_recovered_loaded` asks for `PrefixFreePaths` and `C02_run_recovered_loaded_nest` keeps
    `hnest` explicit. -/
theorem C02_run_recovered_loaded_needs_hnest :
    ¬ (∀ (H : Bytes → Bytes) (inp : RunIn), (∀ t ∈ inp.torrents, Loadable H t) → DistinctPaths inp.torrents →
        HInjOn H (work0 inp) → FsWF inp.fs → NoAlias inp.fs (table0 inp) → inp.faults = [] →
        ∀ w ∈ (run H inp).work,
          (∀ s ∈ w.segs, s.ent.isPad = false →
            inp.fs.look s.ent.fullTarget ≠ .notDir ∧ inp.fs.look s.ent.fullTarget ≠ .dir) →
          AvailScan H inp.fs inp.scan (table0 inp) w → VerE H (run H inp).fs w) := by
  intro h
  obtain ⟨_, hlen, hav, hwr, _, _, hnot⟩ := NestCex.evaluated
  exact hnot <| h id NestCex.inp (List.forall_mem_singleton.2 NestCex.loadable) NestCex.distinct
    (HInjOn_id _) NestCex.wf NestCex.noAlias rfl NestCex.w0 (List.headD_mem hlen) hwr hav.avail

/-! ### `NoNewImageAlias` cannot be dropped from V5

  One torrent with two one-byte files `x` (`[1]`) and `y` (`[2]`), piece length 1, two pieces (`H = id`; loadability
  plays no role in T1). Smaller tree: `s/p = [1]` (inode 0), `s/q = [2]` (inode 1), empty export directory: both pieces
  are available in scan-only files. Larger tree: additionally the export image of `y` exists and is a HARD LINK to
  `s/p` (inode 0). The larger run evaluates the piece of `y` first (default order), finds it in `s/q`, writes it to its
  image — into inode 0 — and thereby destroys the only copy of the data of `x`: the piece of `x` is answered
  `.notFound`. `TreeExtends` holds, the scan directories are the same; `NoNewImageAlias` fails. -/

namespace AliasCex
open TopEx (eDir sDir sp sq)

def ih : Bytes := [0xAB]
def nm : Bytes := [110]
def tor : Torrent := ⟨⟨nm, none, some [⟨1, [[120]]⟩, ⟨1, [[121]]⟩], 1, [[1], [2]]⟩, ih⟩
def nDir : Path := eDir ++ [hex ih, sData, nm]
def imgY : Path := nDir ++ [[121]]
def fsS : Fs := { files := [(sp, 0), (sq, 1)], dirs := [eDir, sDir], data := [(0, [1]), (1, [2])], next := 2 }
def fsL : Fs :=
  { files := [(sp, 0), (sq, 1), (imgY, 0)], dirs := [eDir, sDir, eDir ++ [hex ih], eDir ++ [hex ih, sData], nDir],
    data := [(0, [1]), (1, [2])], next := 2 }
def inpS : RunIn :=
  { fs := fsS, torrents := [tor], scan := [⟨true, sDir⟩], exportDir := ⟨true, eDir⟩, resize := false,
    searchObs := [], order := [], faults := [] }
def inpL : RunIn := { inpS with fs := fsL }

theorem wfS : FsWF fsS := by decide +kernel
theorem wfL : FsWF fsL := by decide +kernel
theorem ext : TreeExtends inpS.fs inpL.fs :=
  TreeExtends.of_check (by decide +kernel) (by decide +kernel) (by decide +kernel) wfS wfL

/-- the pieces of `x` and of `y` in the larger run -/
def wx : Work := (run id inpL).work.headD default
def wy : Work := ((run id inpL).work.drop 1).headD default

/-- what is evaluated about the larger run, in one evaluation: its work list; in the smaller world the data of `x` is
    available in the scan-only file `(s/p, 0)`, also with respect to the table of the larger run (same torrents); after
    the piece of `y` the piece of `x` is not found; the image of `y` has inode 0 in the larger tree and not in the
    smaller one -/
theorem evaluated :
    (run id inpL).work = [wx, wy] ∧
    AvailCheck id inpS.fs inpS.scan (table0 inpL) wx [(sp, 0, ⟨true, sDir⟩)] ∧
    (solvePiece id (solveAll id (runSt3 inpL) [wy] ⟨0, 0, 0⟩ []).1 wx).2 = .notFound ∧
    ∃ e ∈ table0 inpL, e.isPad = false ∧ inpL.fs.inoOf e.fullTarget = some 0 ∧ inpS.fs.inoOf e.fullTarget ≠ some 0 := by
  decide +kernel

theorem run_work : (run id inpL).work = [wx, wy] := evaluated.1

theorem not_noNew : ¬ NoNewImageAlias inpS.fs inpL.fs (table0 inpL) := by
  intro h
  obtain ⟨e, he, hp, h1, h2⟩ := evaluated.2.2.2
  exact h2 (h e he hp 0 h1 ⟨sp, by decide +kernel⟩)

end AliasCex

/-- V5 (`C17_more_candidates`) without `NoNewImageAlias` is FALSE: world `AliasCex` -/
theorem C17_more_candidates_needs_noNewAlias :
    ¬ (∀ (H : Bytes → Bytes) (inp inp' : RunIn), TreeExtends inp.fs inp'.fs → (∀ d ∈ inp.scan, d ∈ inp'.scan) →
        ∀ (w : Work), AvailScan H inp.fs inp.scan (table0 inp') w →
        ∀ (pre post : List Work), RunQ.evalOrder (run H inp').work inp'.order = pre ++ w :: post →
          (solvePiece H (solveAll H (runSt3 inp') pre ⟨0, 0, 0⟩ []).1 w).2 ≠ .notFound) := by
  intro h
  exact h id AliasCex.inpS AliasCex.inpL AliasCex.ext (fun _ hd => hd) AliasCex.wx AliasCex.evaluated.2.1.avail
    [AliasCex.wy] [] (by rw [AliasCex.run_work]; rfl) AliasCex.evaluated.2.2.1

/-- hence `AvailScan_tree_mono` without `NoNewImageAlias` is false as well (it would give the previous statement
    through `C02_run_not_failed`) -/
theorem AvailScan_tree_mono_needs_noNewAlias :
    ¬ (∀ (H : Bytes → Bytes) (fs fs' : Fs) (scan scan' : List PathArg) (table : List TEntry) (w : Work),
        TreeExtends fs fs' → (∀ d ∈ scan, d ∈ scan') → AvailScan H fs scan table w → AvailScan H fs' scan' table w) := by
  intro h
  apply C17_more_candidates_needs_noNewAlias
  intro H inp inp' hext hscan w havail pre post hord
  exact C02_run_not_failed H inp' hext.wf' w
    (RunV.avail_run H inp' (h H inp.fs inp'.fs inp.scan inp'.scan _ w hext hscan havail)) pre post hord

end TB
