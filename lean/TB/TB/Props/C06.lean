/-
  C06 — the piece layout is an exact partition of the torrent's byte space onto files.
  Property theorems only; helper lemmas live in TB/Lemmas/Pieces.lean.
-/
import TB.Model.Pieces
import TB.Model.Torrent
import TB.Spec.LayoutSpec
import TB.Lemmas.Pieces
import TB.Props.C10
namespace TB

/-- what C06 says of piece `i` of a layout over file lengths `files` with piece length `L` -/
def PieceOk (L : Nat) (files : List Nat) (hashes : List Bytes) (i : Nat) (p : Piece) : Prop :=
  p.segs.flatMap (addr files) = List.range' (i * L) (min L (files.sum - i * L))
  ∧ some p.hash = hashes[i]? ∧ p.pos = i ∧ p.len = min L (files.sum - i * L)
  ∧ (∀ s ∈ p.segs, some s.flen = files[s.file]? ∧ s.off + s.len ≤ s.flen ∧ (s.len = 0 → s.flen = 0))
  ∧ (p.segs.map (·.file)).Pairwise (· < ·)

private theorem PieceOk_of_good (L : Nat) (files : List Nat) (hashes : List Bytes) (i : Nat) (p : Piece)
    (hi : i < hashes.length) (hg : PieceGood L files hashes[i] i p) : PieceOk L files hashes i p :=
  ⟨hg.flat, by rw [hg.hash, List.getElem?_eq_getElem hi], hg.pos, hg.len, hg.segok, hg.incr⟩

/-- multi-file form: the cursor loop never panics and yields exactly the partition -/
theorem C06_partition_multi (L : Nat) (files : List Nat) (hashes : List Bytes)
    (hL : 0 < L) (hne : files ≠ []) (hcount : hashes.length = (files.sum + L - 1) / L) :
    ∃ ps, constructMulti L files hashes = some ps ∧ ps.length = hashes.length ∧
      ∀ i (hi : i < ps.length), PieceOk L files hashes i ps[i] := by
  obtain ⟨ps, hps, hlen, hgood, _⟩ := multi_top L files hashes hne (ceil_lt L _ _ hL hcount)
  exact ⟨ps, hps, hlen, fun i hi =>
    PieceOk_of_good L files hashes i ps[i] (hlen ▸ hi) (hgood i hi (hlen ▸ hi))⟩

/-- single-file form -/
theorem C06_partition_single (L total : Nat) (hashes : List Bytes)
    (hL : 0 < L) (hcount : hashes.length = (total + L - 1) / L) :
    let ps := constructSingle L total hashes
    ps.length = hashes.length ∧ ∀ i (hi : i < ps.length), PieceOk L [total] hashes i ps[i] := by
  obtain ⟨hlen, hgood, _⟩ := single_top L total hashes hL (ceil_lt L _ _ hL hcount)
  exact ⟨hlen, fun i hi =>
    PieceOk_of_good L [total] hashes i _ (hlen ▸ hi) (hgood i hi (hlen ▸ hi))⟩

/-- every byte of every file belongs to exactly one segment of exactly one piece, in order:
    the concatenation of all segments' address ranges is 0, 1, …, total-1 with no gap and no repeat -/
theorem C06_every_byte_multi (L : Nat) (files : List Nat) (hashes : List Bytes) (ps : List Piece)
    (hL : 0 < L) (hne : files ≠ []) (hcount : hashes.length = (files.sum + L - 1) / L)
    (h : constructMulti L files hashes = some ps) :
    ps.flatMap (fun p => p.segs.flatMap (addr files)) = List.range' 0 files.sum := by
  obtain ⟨ps', hps, _, _, hflat⟩ := multi_top L files hashes hne (ceil_lt L _ _ hL hcount)
  rw [h] at hps
  cases hps
  rw [hflat, Nat.min_eq_right (ceil_ge L _ _ hL hcount)]

theorem C06_every_byte_single (L total : Nat) (hashes : List Bytes)
    (hL : 0 < L) (hcount : hashes.length = (total + L - 1) / L) :
    (constructSingle L total hashes).flatMap (fun p => p.segs.flatMap (addr [total])) = List.range' 0 total := by
  rw [(single_top L total hashes hL (ceil_lt L _ _ hL hcount)).2.2, Nat.min_eq_right (ceil_ge L _ _ hL hcount)]

/-- closed form: the layout the code computes passes the interval-arithmetic checker used on the
    implementation's output (TB.Spec.LayoutSpec.checkLayout), i.e. its positive-length segments are exactly the
    non-empty intersections of the piece interval with the file intervals -/
theorem C06_closed_form_multi (L : Nat) (files : List Nat) (hashes : List Bytes) (ps : List Piece)
    (hL : 0 < L) (hne : files ≠ []) (hcount : hashes.length = (files.sum + L - 1) / L)
    (h : constructMulti L files hashes = some ps) :
    checkLayout L files hashes ps = true := by
  obtain ⟨ps', hps, hlen, hgood, _⟩ := multi_top L files hashes hne (ceil_lt L _ _ hL hcount)
  rw [h] at hps
  cases hps
  exact checkLayout_of_good L files hashes ps hlen hgood

theorem C06_closed_form_single (L total : Nat) (hashes : List Bytes)
    (hL : 0 < L) (hcount : hashes.length = (total + L - 1) / L) :
    checkLayout L [total] hashes (constructSingle L total hashes) = true := by
  obtain ⟨hlen, hgood, _⟩ := single_top L total hashes hL (ceil_lt L _ _ hL hcount)
  exact checkLayout_of_good L [total] hashes _ hlen hgood

/-- piece length 0 is loadable only with total 0 and no hash: no pieces, nothing panics -/
theorem C06_zero_piece_length (length : Option Nat) (files : List Nat) (hne : files ≠ []) :
    constructPieces 0 length (some files) [] = some [] := by
  cases length with
  | some total => rfl
  | none =>
    cases files with
    | nil => exact absurd rfl hne
    | cons f0 rest => rfl

/-- for every loadable torrent the layout exists (no panic) and passes the checker -/
theorem C06_loaded (H : Bytes → Bytes) (inp : Bytes) (T : Torrent) (h : load H inp = .ok T) :
    ∃ ps, constructPieces T.info.pieceLength T.info.length (T.info.files.map (·.map (·.length))) T.info.pieces = some ps
      ∧ ps.length = T.info.pieces.length
      ∧ (0 < T.info.pieceLength →
          checkLayout T.info.pieceLength
            (match T.info.length with | some l => [l] | none => (T.info.files.getD []).map (·.length))
            T.info.pieces ps = true) := by
  rcases (C10_loaded_wf H inp T h).2.2.2.2 with ⟨l, hl, hf, _, hpc⟩ | ⟨fs, hl, hf, hne, _, hpc⟩
  · rw [hl, hf]
    refine ⟨_, rfl, ?_⟩
    by_cases h0 : T.info.pieceLength = 0
    · simp only [pieceCountOk, h0, if_true, Bool.and_eq_true, decide_eq_true_eq] at hpc
      rw [List.eq_nil_of_length_eq_zero hpc.2]
      exact ⟨rfl, fun hpos => absurd h0 (Nat.ne_of_gt hpos)⟩
    · obtain ⟨hlen, hgood, _⟩ := single_top T.info.pieceLength l T.info.pieces (Nat.pos_of_ne_zero h0) (pieceCountOk_lt hpc)
      exact ⟨hlen, fun _ => checkLayout_of_good _ [l] _ _ hlen hgood⟩
  · rw [hl, hf]
    have hlt := pieceCountOk_lt hpc
    obtain ⟨ps, hps, hlen, hgood, _⟩ := multi_top _ _ _ (mt List.map_eq_nil_iff.1 hne) hlt
    exact ⟨ps, hps, hlen, fun _ => checkLayout_of_good _ _ _ _ hlen hgood⟩

-- non-vacuity: a concrete non-trivial layout meeting the hypotheses (3 files, one empty, L = 4, 3 pieces)
example : (([3, 0, 6] : List Nat) ≠ []) ∧ ([[1], [2], [3]] : List Bytes).length = (([3, 0, 6] : List Nat).sum + 4 - 1) / 4 := by
  decide

end TB
