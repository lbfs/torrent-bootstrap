/-
  C17 (scan directories) — permuting the scan directories, repeating one, or listing a directory together with
  one of its ancestors yields the identical result.

  What is proved (helpers in TB.Lemmas.RunS):
    S1  `C17_cache_cover`, `C17_cache_perm`, `C17_cache_nested`: the cache the scan list builds on top of any cache
        is the same RELATION (which lengths have a candidate map, which (path, inode) pairs are members) for two
        scan lists that cover the same file names. No hypothesis on the tree is needed.
    S2  `C17_pathLt_strict_total`, `C17_keyLt_strict_total`: the comparison of the canonical resolution is a strict
        total order on paths. `C17_canonical_set`: `canonicalSearches` sees a candidate map only as a set — no
        hypothesis. `C17_valid_set`, `C17_populate_set`: so do `validSearches` and `populateSearches` for an arbitrary
        observation, provided every path is bound at most once in a map (`CacheWF`; needed, `C17_valid_needs_nodup`),
        which `C17_cacheWF_run` proves of every cache a run builds — again no hypothesis on the tree.
    S3  `C17_run_scan`, `C17_run_scan_perm`: without fault points, two runs that differ in the scan list only agree
        on result, final tree, counters, total, resolutionOk, table (with candidate lists) and work list; their logs
        are equal after a prefix of `stat` operations, and `setupOps` differs by the difference of these prefixes.
        This holds for EVERY `searchObs` and `order` (the same in both runs), in particular for `[]`, `[]`.
    S4  `C17_run_scan_nested`: adding valid directories that lie at or below listed ones changes nothing (same sense).
        Listing the export directory as a scan directory is NOT neutral: `C17ExportCex` is a checked world in which it
        changes counters and tree. `C17FaultCex` shows why `faults = []` is assumed.
-/
import TB.Spec.ExportSpec
import TB.Lemmas.RunS
import TB.Props.C17run
namespace TB
open TB.RunS

/-- S1, general form. Two scan lists that cover the same names of regular files (`covered scan p`: some directory
    of the list is a proper prefix of `p`) build, on top of ANY cache `cache0`, caches that have a candidate map for
    the same lengths and whose candidate maps have the same members. Nothing is assumed of `fs` (a name bound to
    several inodes is resolved by the last binding in `fs.files` under every scan directory alike) nor of `cache0`. -/
theorem C17_cache_cover (fs : Fs) (lengths : List Nat) (cache0 : Cache) (scan scan' : List PathArg)
    (hcov : ∀ e ∈ fs.files, covered scan e.1 = covered scan' e.1) (len : Nat) :
    ((cacheGet (scan.foldl (fun c d => addByDirectory fs c d.path lengths) cache0) len).isSome =
     (cacheGet (scan'.foldl (fun c d => addByDirectory fs c d.path lengths) cache0) len).isSome) ∧
    ∀ p i, (∃ m, cacheGet (scan.foldl (fun c d => addByDirectory fs c d.path lengths) cache0) len = some m ∧ (p, i) ∈ m) ↔
           (∃ m, cacheGet (scan'.foldl (fun c d => addByDirectory fs c d.path lengths) cache0) len = some m ∧ (p, i) ∈ m) := by
  obtain ⟨h1, h2⟩ := scan_congr_files fs lengths scan scan' cache0 hcov
  refine ⟨?_, fun p i => h2 len p i⟩
  have := h1 len
  unfold CHas at this
  rw [Bool.eq_iff_iff]
  exact this

/-- S1 for permutation and repetition: scan lists with the same SET of directory paths. -/
theorem C17_cache_perm (fs : Fs) (lengths : List Nat) (cache0 : Cache) (scan scan' : List PathArg)
    (hset : ∀ p, p ∈ scan.map (·.path) ↔ p ∈ scan'.map (·.path)) (len : Nat) :
    ((cacheGet (scan.foldl (fun c d => addByDirectory fs c d.path lengths) cache0) len).isSome =
     (cacheGet (scan'.foldl (fun c d => addByDirectory fs c d.path lengths) cache0) len).isSome) ∧
    ∀ p i, (∃ m, cacheGet (scan.foldl (fun c d => addByDirectory fs c d.path lengths) cache0) len = some m ∧ (p, i) ∈ m) ↔
           (∃ m, cacheGet (scan'.foldl (fun c d => addByDirectory fs c d.path lengths) cache0) len = some m ∧ (p, i) ∈ m) := by
  exact C17_cache_cover fs lengths cache0 scan scan' (fun e _ => covered_eq_of_paths hset e.1) len

/-- S1 for nesting: directories `extra` that each lie at or below (`<+:` on component lists) a directory already in
    `scan` may be added anywhere — here in front and behind — without changing the cache relation. -/
theorem C17_cache_nested (fs : Fs) (lengths : List Nat) (cache0 : Cache) (scan extra extra' : List PathArg)
    (hbelow : ∀ d' ∈ extra ++ extra', ∃ d ∈ scan, d.path <+: d'.path) (len : Nat) :
    ((cacheGet (scan.foldl (fun c d => addByDirectory fs c d.path lengths) cache0) len).isSome =
     (cacheGet ((extra ++ scan ++ extra').foldl (fun c d => addByDirectory fs c d.path lengths) cache0) len).isSome) ∧
    ∀ p i, (∃ m, cacheGet (scan.foldl (fun c d => addByDirectory fs c d.path lengths) cache0) len = some m ∧ (p, i) ∈ m) ↔
           (∃ m, cacheGet ((extra ++ scan ++ extra').foldl (fun c d => addByDirectory fs c d.path lengths) cache0) len
              = some m ∧ (p, i) ∈ m) := by
  exact C17_cache_cover fs lengths cache0 scan _ (fun e _ => covered_nested hbelow e.1) len

/-- `pathLt` is a strict total order: irreflexive, transitive, and it decides every pair of distinct paths. -/
theorem C17_pathLt_strict_total :
    (∀ a, pathLt a a = false) ∧
    (∀ a b c, pathLt a b = true → pathLt b c = true → pathLt a c = true) ∧
    (∀ a b, a ≠ b → pathLt a b = true ∨ pathLt b a = true) := by
  refine ⟨pathLt_irrefl, fun a b c => pathLt_trans, fun a b hne => ?_⟩
  cases h : pathLt a b
  · cases h' : pathLt b a
    · exact absurd (pathLt_total h h') hne
    · exact .inr rfl
  · exact .inl rfl

/-- so is the comparison `canonicalSearches` sorts with — (similarity, path) lexicographically — on paths -/
theorem C17_keyLt_strict_total (e : TEntry) :
    let lt := fun (p q : Path) =>
      decide (similarity p e.partialTarget e.fullTarget < similarity q e.partialTarget e.fullTarget) ||
      (similarity p e.partialTarget e.fullTarget == similarity q e.partialTarget e.fullTarget && pathLt p q)
    (∀ a, lt a a = false) ∧ (∀ a b c, lt a b = true → lt b c = true → lt a c = true) ∧
    (∀ a b, a ≠ b → lt a b = true ∨ lt b a = true) := by
  intro lt
  have hlt : lt = keyLt (fun p => similarity p e.partialTarget e.fullTarget) := rfl
  rw [hlt]
  exact ⟨keyLt_irrefl _, fun _ _ _ => keyLt_trans _, fun _ _ => keyLt_total _⟩

/-- S2. The canonical candidate order of an entry depends only on the SET of members of the candidate map — no
    hypothesis at all: not on the tree, not on the map (a path may be bound to several inodes, a pair may occur
    several times). The sorted intermediate list does depend on the list order when a path is bound twice
    (`C17_sort_needs_nodup`: the comparison looks at paths only, so names of one path keep their relative order),
    but the sort keeps the names of one path together and `pruneLinks` turns such a group into as many copies of
    the path as the group has inodes not seen before, which is a function of the set
    (`RunS.pruneLinks_ws_ext`). -/
theorem C17_canonical_set (e : TEntry) (m m' : List (Path × Nat)) (h : ∀ x, x ∈ m ↔ x ∈ m') :
    canonicalSearches e m = canonicalSearches e m' :=
  canonical_ext e m m' h

/-- one path bound to two inodes, in the two list orders: the same set, different sorted lists -/
theorem C17_sort_needs_nodup :
    ∃ (m m' : List (Path × Nat)), (∀ x, x ∈ m ↔ x ∈ m') ∧
      sortBy (fun (a b : Path × Nat) => pathLt a.1 b.1) m ≠ sortBy (fun (a b : Path × Nat) => pathLt a.1 b.1) m' := by
  refine ⟨[([[1]], 0), ([[1]], 1)], [([[1]], 1), ([[1]], 0)], ?_, by decide +kernel⟩
  intro x; simp only [List.mem_cons, List.not_mem_nil, or_false]
  exact Or.comm

/-- admissibility of an observed candidate order depends only on the set of members as well — here under the
    hypothesis that in both maps every path occurs once (`Nodup` of the first components). The hypothesis is needed
    (`C17_valid_needs_nodup`: `validSearches` resolves a path to its FIRST binding) and it costs nothing: every
    candidate map of a cache built by `cacheInsert` has it (`C17_cacheWF_run`), whatever the tree looks like. -/
theorem C17_valid_set (e : TEntry) (m m' : List (Path × Nat))
    (hm : (m.map (·.1)).Nodup) (hm' : (m'.map (·.1)).Nodup) (h : ∀ x, x ∈ m ↔ x ∈ m') (obs : List Path) :
    validSearches e m obs = validSearches e m' obs :=
  valid_ext e m m' hm hm' h obs

/-- without `Nodup` this is false: `p` bound to inodes 0 and 1, `r` bound to 1; the observation `[p, r]` is
    admissible when `p` resolves to 0 (first binding) and not when it resolves to 1 -/
theorem C17_valid_needs_nodup :
    ∃ (e : TEntry) (m m' : List (Path × Nat)) (obs : List Path), (∀ x, x ∈ m ↔ x ∈ m') ∧
      validSearches e m obs = true ∧ validSearches e m' obs = false := by
  refine ⟨default, [([[1]], 0), ([[1]], 1), ([[3]], 1)], [([[1]], 1), ([[1]], 0), ([[3]], 1)], [[[1]], [[3]]],
    ?_, by decide +kernel, by decide +kernel⟩
  intro x; simp only [List.mem_cons, List.not_mem_nil, or_false]
  exact or_left_comm

/-- hence `populateSearches` with nothing observed (`obs = []`, the canonical resolution) gives the same table for
    two caches that are the same relation — no further hypothesis -/
theorem C17_populate_set_canonical (c c' : Cache)
    (hhas : ∀ l, (cacheGet c l).isSome = true ↔ (cacheGet c' l).isSome = true)
    (hmem : ∀ l p i, (∃ m, cacheGet c l = some m ∧ (p, i) ∈ m) ↔ (∃ m, cacheGet c' l = some m ∧ (p, i) ∈ m))
    (table : List TEntry) :
    populateSearches c [] table = populateSearches c' [] table :=
  populate_congr c c' hhas hmem [] table (fun _ _ _ _ _ _ _ ho => nomatch ho)

/-- and for any observation `obs` it gives the same table and the same admissibility flag, when moreover both
    caches bind every path once per length (`CacheWF`; needed because of `validSearches`, see above) -/
theorem C17_populate_set (c c' : Cache) (hw : CacheWF c) (hw' : CacheWF c')
    (hhas : ∀ l, (cacheGet c l).isSome = true ↔ (cacheGet c' l).isSome = true)
    (hmem : ∀ l p i, (∃ m, cacheGet c l = some m ∧ (p, i) ∈ m) ↔ (∃ m, cacheGet c' l = some m ∧ (p, i) ∈ m))
    (obs : List (Nat × List Path)) (table : List TEntry) :
    populateSearches c obs table = populateSearches c' obs table :=
  populate_congr c c' hhas hmem obs table
    (fun e m m' hm hm' hmm o _ => valid_ext e m m' (hw _ _ hm) (hw' _ _ hm') hmm o.2)

/-- the well-formedness `C17_valid_set`/`C17_populate_set` need holds of every cache a run builds: `addExportPaths` from the empty cache followed
    by any scan list, on any tree and any state -/
theorem C17_cacheWF_run (st : St) (table : List TEntry) (fs : Fs) (lengths : List Nat) (scan : List PathArg) :
    CacheWF (scan.foldl (fun c d => addByDirectory fs c d.path lengths) (addExportPaths st [] table).2) :=
  CacheWF_scan fs lengths scan (CacheWF_addExportPaths st CacheWF_nil table)

/-- S3, general form. `inp` has no fault points (they are indexed by operation number, and the number of `stat`
    operations differs — `C17FaultCex` below); `scan'` is accepted by the validation iff `inp.scan` is (`argOk`: an
    absolute path that is a directory of `inp.fs`); the two lists cover the same names of regular files of the
    initial tree (`covered l p`: some directory of `l` is a proper prefix of `p`). Then the run with `scan'`
    agrees with the run with `inp.scan` on result, final tree, counters, total, admissibility of the resolution,
    table (with the candidate lists) and work list; the logs consist of a prefix of `stat` operations followed by
    the same operations, and `setupOps` counts the same number of operations after the prefix.
    `inp.searchObs` and `inp.order` are arbitrary (and the same in both runs); with `[]` and `[]` this is the
    canonical resolution and the default order. -/
theorem C17_run_scan (H : Bytes → Bytes) (inp : RunIn) (scan' : List PathArg) (hf : inp.faults = [])
    (hvalid : scan'.all (argOk inp.fs) = inp.scan.all (argOk inp.fs))
    (hcov : ∀ e ∈ inp.fs.files, covered inp.scan e.1 = covered scan' e.1) :
    (run H { inp with scan := scan' }).result = (run H inp).result ∧
    (run H { inp with scan := scan' }).fs = (run H inp).fs ∧
    (run H { inp with scan := scan' }).counters = (run H inp).counters ∧
    (run H { inp with scan := scan' }).total = (run H inp).total ∧
    (run H { inp with scan := scan' }).resolutionOk = (run H inp).resolutionOk ∧
    (run H { inp with scan := scan' }).table = (run H inp).table ∧
    (run H { inp with scan := scan' }).work = (run H inp).work ∧
    ∃ pre pre' rest k, (∀ o ∈ pre, o.kind = .stat) ∧ (∀ o ∈ pre', o.kind = .stat) ∧
      (run H inp).ops = pre ++ rest ∧ (run H { inp with scan := scan' }).ops = pre' ++ rest ∧
      (run H inp).setupOps = pre.length + k ∧ (run H { inp with scan := scan' }).setupOps = pre'.length + k := by
  obtain ⟨pre, pre', h1, h2, a1, a2, a3, a4, a5, a6, a7, rest, k, b1, b2, b3, b4⟩ :=
    run_scan_agree H inp scan' hf hvalid hcov
  exact ⟨a1, a2, a3, a4, a5, a6, a7, pre, pre', rest, k, h1, h2, b1, b2, b3, b4⟩

/-- S3 for permutation and repetition: `scan'` has the same SET of arguments as `inp.scan`. Validity of `scan'`
    need not be assumed: it follows from set equality (both are accepted or both rejected; if rejected both runs
    end in `.err` with the tree untouched). -/
theorem C17_run_scan_perm (H : Bytes → Bytes) (inp : RunIn) (scan' : List PathArg) (hf : inp.faults = [])
    (hset : ∀ a, a ∈ inp.scan ↔ a ∈ scan') :
    (run H { inp with scan := scan' }).result = (run H inp).result ∧
    (run H { inp with scan := scan' }).fs = (run H inp).fs ∧
    (run H { inp with scan := scan' }).counters = (run H inp).counters ∧
    (run H { inp with scan := scan' }).total = (run H inp).total ∧
    (run H { inp with scan := scan' }).resolutionOk = (run H inp).resolutionOk ∧
    (run H { inp with scan := scan' }).table = (run H inp).table ∧
    (run H { inp with scan := scan' }).work = (run H inp).work ∧
    ∃ pre pre' rest k, (∀ o ∈ pre, o.kind = .stat) ∧ (∀ o ∈ pre', o.kind = .stat) ∧
      (run H inp).ops = pre ++ rest ∧ (run H { inp with scan := scan' }).ops = pre' ++ rest ∧
      (run H inp).setupOps = pre.length + k ∧ (run H { inp with scan := scan' }).setupOps = pre'.length + k := by
  refine C17_run_scan H inp scan' hf ?_ ?_
  · exact all_ext _ _ _ (fun a => (hset a).symm)
  · exact fun e _ => covered_eq_of_paths (fun p => by simp only [List.mem_map, hset]) e.1

/-- S4, the true half. Directories `extra`, `extra'` that are themselves valid arguments (absolute, existing
    directories — otherwise the validation rejects the run) and lie at or below directories of `inp.scan` may be
    added in front of and behind the scan list: same conclusion as S3. -/
theorem C17_run_scan_nested (H : Bytes → Bytes) (inp : RunIn) (extra extra' : List PathArg) (hf : inp.faults = [])
    (hok : ∀ d' ∈ extra ++ extra', argOk inp.fs d' = true)
    (hbelow : ∀ d' ∈ extra ++ extra', ∃ d ∈ inp.scan, d.path <+: d'.path) :
    (run H { inp with scan := extra ++ inp.scan ++ extra' }).result = (run H inp).result ∧
    (run H { inp with scan := extra ++ inp.scan ++ extra' }).fs = (run H inp).fs ∧
    (run H { inp with scan := extra ++ inp.scan ++ extra' }).counters = (run H inp).counters ∧
    (run H { inp with scan := extra ++ inp.scan ++ extra' }).total = (run H inp).total ∧
    (run H { inp with scan := extra ++ inp.scan ++ extra' }).resolutionOk = (run H inp).resolutionOk ∧
    (run H { inp with scan := extra ++ inp.scan ++ extra' }).table = (run H inp).table ∧
    (run H { inp with scan := extra ++ inp.scan ++ extra' }).work = (run H inp).work ∧
    ∃ pre pre' rest k, (∀ o ∈ pre, o.kind = .stat) ∧ (∀ o ∈ pre', o.kind = .stat) ∧
      (run H inp).ops = pre ++ rest ∧ (run H { inp with scan := extra ++ inp.scan ++ extra' }).ops = pre' ++ rest ∧
      (run H inp).setupOps = pre.length + k ∧
      (run H { inp with scan := extra ++ inp.scan ++ extra' }).setupOps = pre'.length + k := by
  refine C17_run_scan H inp (extra ++ inp.scan ++ extra') hf ?_ ?_
  · have h1 : extra.all (argOk inp.fs) = true :=
      List.all_eq_true.2 (fun d hd => hok d (List.mem_append_left _ hd))
    have h2 : extra'.all (argOk inp.fs) = true :=
      List.all_eq_true.2 (fun d hd => hok d (List.mem_append_right _ hd))
    simp [List.all_append, h1, h2]
  · exact fun e _ => covered_nested hbelow e.1

/-! ### non-vacuity: two scan directories in both orders -/

namespace C17ScanEx

def ih : Bytes := [0xAB]
def nm : Bytes := [110]
def eDir : Path := [[101]]
def sA : Path := [[97]]
def sB : Path := [[98]]
def img : Path := eDir ++ [hex ih, sData, nm]

/-- one single-file torrent of length 2 = two pieces of length 1 with hashes `[1]`, `[2]` (`H` is the identity) -/
def tor : Torrent := ⟨⟨nm, some 2, none, 1, [[1], [2]]⟩, ih⟩

/-- `a/x = [1, 9]` supplies piece 0, `b/y = [8, 2]` supplies piece 1, `b/z` is a second name of `a/x` -/
def fs0 : Fs :=
  { files := [(sA ++ [[120]], 0), (sB ++ [[121]], 1), (sB ++ [[122]], 0)],
    dirs := [eDir, sA, sB],
    data := [(0, [1, 9]), (1, [8, 2])],
    next := 2 }

def inp : RunIn :=
  { fs := fs0, torrents := [tor], scan := [⟨true, sA⟩, ⟨true, sB⟩], exportDir := ⟨true, eDir⟩, resize := false,
    searchObs := [], order := [], faults := [] }

def scan' : List PathArg := [⟨true, sB⟩, ⟨true, sA⟩]

/-- the hypotheses of `C17_run_scan_perm` hold -/
example : inp.faults = [] ∧ ∀ a, a ∈ inp.scan ↔ a ∈ scan' := by
  refine ⟨rfl, fun a => ?_⟩
  simp only [inp, scan', List.mem_cons, List.not_mem_nil, or_false]
  exact Or.comm

/-- the theorem applies … -/
example : (run id { inp with scan := scan' }).fs = (run id inp).fs ∧
    (run id { inp with scan := scan' }).counters = (run id inp).counters ∧
    (run id { inp with scan := scan' }).table = (run id inp).table := by
  have h := C17_run_scan_perm id inp scan' rfl
    (fun a => by simp only [inp, scan', List.mem_cons, List.not_mem_nil, or_false]; exact Or.comm)
  exact ⟨h.2.1, h.2.2.1, h.2.2.2.2.2.1⟩

/-- … and the run is not a degenerate one: both pieces are found (one from each directory), the image is written,
    the candidate list has two entries (the hard link `b/z` is pruned), and the two logs really differ -/
example : (run id inp).result = .ok () ∧ (run id inp).counters = [⟨1, 0, 0⟩, ⟨2, 0, 0⟩] ∧
    (run id inp).fs.content 2 = [1, 2] ∧ (run id inp).fs.inoOf img = some 2 ∧
    (run id inp).table.map (·.searches) = [some [sA ++ [[120]], sB ++ [[121]]]] ∧
    (run id inp).ops ≠ (run id { inp with scan := scan' }).ops := by decide +kernel

/-- the same outcome computed directly for the other order, and for a list with a repetition -/
example : (run id { inp with scan := scan' }).fs = (run id inp).fs ∧
    (run id { inp with scan := scan' ++ scan' }).fs = (run id inp).fs ∧
    (run id { inp with scan := scan' ++ scan' }).table = (run id inp).table := by decide +kernel

end C17ScanEx

/-! ### S4, the false half: the export directory as a scan directory -/

namespace C17ExportCex

def ih : Bytes := [0xAB]
def nm : Bytes := [110]
def eDir : Path := [[101]]
def sDir : Path := [[115]]
def img : Path := eDir ++ [hex ih, sData, nm]

/-- one single-file torrent of length 1, one piece with hash `[7]` (`H` is the identity) -/
def tor : Torrent := ⟨⟨nm, some 1, none, 1, [[7]]⟩, ih⟩

/-- the only file is a stray `e/x = [7]` directly inside the export directory; the scan directory is empty -/
def fs0 : Fs :=
  { files := [(eDir ++ [[120]], 0)],
    dirs := [eDir, sDir],
    data := [(0, [7])],
    next := 1 }

def inp : RunIn :=
  { fs := fs0, torrents := [tor], scan := [⟨true, sDir⟩], exportDir := ⟨true, eDir⟩, resize := false,
    searchObs := [], order := [], faults := [] }

/-- Listing the export directory among the scan directories is NOT neutral in the model (nor in the tool:
    `add_export_paths` registers only the export images of the declared length, a scan of the export directory
    registers every file below it): without it the piece is not found and nothing is written, with it the stray
    file is a candidate, the piece is found and the image is created. Both runs succeed and both are admissible.
    For this case the property promises "the same guarantees", not the identical tree. -/
theorem C17_export_as_scan_differs :
    (run id inp).result = .ok () ∧ (run id { inp with scan := inp.scan ++ [inp.exportDir] }).result = .ok () ∧
    (run id inp).counters = [⟨0, 1, 0⟩] ∧
    (run id { inp with scan := inp.scan ++ [inp.exportDir] }).counters = [⟨1, 0, 0⟩] ∧
    (run id inp).fs = fs0 ∧
    (run id { inp with scan := inp.scan ++ [inp.exportDir] }).fs.inoOf img = some 1 ∧
    (run id { inp with scan := inp.scan ++ [inp.exportDir] }).fs ≠ (run id inp).fs := by decide +kernel

/-- the hypothesis of `C17_run_scan` that fails is the covering one: the regular file `e/x` is covered only when
    `e` is listed -/
example : (eDir ++ [[120]], 0) ∈ inp.fs.files ∧ covered inp.scan (eDir ++ [[120]]) = false ∧
    covered (inp.scan ++ [inp.exportDir]) (eDir ++ [[120]]) = true := by decide +kernel

end C17ExportCex

/-! ### why `faults = []` -/

namespace C17FaultCex
open C17ScanEx

/-- With a fault point the statement is false even for a mere repetition: fault points are indices into the log,
    and a repeated scan directory costs one more `stat`. With the fault at index 2, the run with `[a]` validates
    `a` and `e` (operations 0, 1) and takes the fault on a later, tolerated operation; the run with `[a, a]`
    takes it on the `stat` of the export directory and is rejected. -/
theorem C17_scan_repeat_with_fault_differs :
    (run id { inp with scan := [⟨true, sA⟩], faults := [2] }).result = .ok () ∧
    (run id { inp with scan := [⟨true, sA⟩, ⟨true, sA⟩], faults := [2] }).result = .err := by decide +kernel

end C17FaultCex

end TB
