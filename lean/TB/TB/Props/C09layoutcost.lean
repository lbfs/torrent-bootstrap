/-
  C09 (promptness), layout part — computing the piece layout takes a number of elementary steps linear in
  (number of piece hashes + number of files), whatever the piece length and the declared file lengths are:
  the layout loops are driven by the hash list and by the file cursor, never by a length written in the input
  (piece length 1 with a declared length of 2^64 costs 8 steps per hash, like any other piece length).
  What a step is: see TB/Spec/LayoutCost.lean (loop tests, files visited, arithmetic of an iteration, segments and
  pieces produced, one step per segment for the piece-length sum).
  The bounds hold for every input of the layout functions, loadable or not, panicking or not; no hypothesis from the
  loader (`pieceCountOk`) is needed because the model's outer loop is `for hash in pieces`, not `0 .. ⌈total/L⌉`.
-/
import TB.Spec.LayoutCost
import TB.Lemmas.LCost
import TB.Props.C06
namespace TB
open TB.LCost TB.LCostL

/-- every step-counting layout function computes exactly what the model function computes -/
theorem C09_layout_cost_faithful :
    (∀ L files fuel counted fi rem acc,
      (fillC L files fuel counted fi rem acc).1 = fill L files fuel counted fi rem acc) ∧
    (∀ L files hs pos fi rem, (multiLoopC L files hs pos fi rem).1 = multiLoop L files hs pos fi rem) ∧
    (∀ L files hashes, (constructMultiC L files hashes).1 = constructMulti L files hashes) ∧
    (∀ L total hs pos start rem,
      (singleLoopC L total hs pos start rem).1 = singleLoop L total hs pos start rem) ∧
    (∀ L total hashes, (constructSingleC L total hashes).1 = constructSingle L total hashes) ∧
    (∀ L length files hashes,
      (constructPiecesC L length files hashes).1 = constructPieces L length files hashes) :=
  ⟨fillC_fst, multiLoopC_fst, constructMultiC_fst, singleLoopC_fst, constructSingleC_fst, constructPiecesC_fst⟩

/-- sharp form: the multi-file layout over a non-empty file list takes at most `8·#hashes + 6·#files - 4`
    steps (8 per piece: outer iteration, the iteration of the inner loop that completes the piece = 4, its failing
    loop test, the length-sum unit of its last segment, the push; 6 per file: the inner-loop iteration that leaves
    the file = 5 and the length-sum unit of its segment). `L` and the file lengths do not occur in the bound. -/
theorem C09_layout_cost_multi_sharp (L : Nat) (files : List Nat) (hashes : List Bytes) (hne : files ≠ []) :
    (constructMultiC L files hashes).2 + 4 ≤ 8 * hashes.length + 6 * files.length :=
  constructMultiC_cost L files hashes hne

/-- the multi-file layout takes at most `8·(#hashes + #files) + 1` steps, for every piece length and all file
    lengths (the `+ 1` is attained by the empty file list: `files.first().unwrap()` panics after one step) -/
theorem C09_layout_cost_linear (L : Nat) (files : List Nat) (hashes : List Bytes) :
    (constructMultiC L files hashes).2 ≤ 8 * (hashes.length + files.length) + 1 := by
  rcases files with _ | ⟨f0, rest⟩
  · rw [constructMultiC_nil]; simp only []; omega
  · have := constructMultiC_cost L (f0 :: rest) hashes (by simp)
    omega

/-- the single-file layout takes exactly `4·#hashes + 1` steps (iteration, arithmetic, segment, piece per hash;
    one final loop test), for every piece length and every declared total length -/
theorem C09_layout_cost_single (L total : Nat) (hashes : List Bytes) :
    (constructSingleC L total hashes).2 = 4 * hashes.length + 1 :=
  singleLoopC_cost L total hashes 0 0 total

/-- `Pieces::from_torrent` as a whole (one more step for the dispatch) -/
theorem C09_layout_cost_pieces (L : Nat) (length : Option Nat) (files : Option (List Nat)) (hashes : List Bytes) :
    (constructPiecesC L length files hashes).2 ≤ 8 * (hashes.length + (files.getD []).length) + 2 := by
  rcases length with _ | total
  · rcases files with _ | fs
    · simp only [constructPiecesC]; omega
    · have := C09_layout_cost_linear L fs hashes
      simp only [constructPiecesC, Option.getD_some]
      omega
  · have := C09_layout_cost_single L total hashes
    simp only [constructPiecesC]
    omega

/-- for every loadable torrent the layout is produced (no panic) within `8·(#hashes + #files) + 2` steps -/
theorem C09_layout_cost_loaded (H : Bytes → Bytes) (inp : Bytes) (T : Torrent) (h : load H inp = .ok T) :
    ∃ ps n, constructPiecesC T.info.pieceLength T.info.length (T.info.files.map (·.map (·.length))) T.info.pieces
        = (some ps, n)
      ∧ ps.length = T.info.pieces.length
      ∧ n ≤ 8 * (T.info.pieces.length + (T.info.files.getD []).length) + 2 := by
  obtain ⟨ps, hps, hlen, _⟩ := C06_loaded H inp T h
  have hf := constructPiecesC_fst T.info.pieceLength T.info.length (T.info.files.map (·.map (·.length))) T.info.pieces
  have hc := C09_layout_cost_pieces T.info.pieceLength T.info.length (T.info.files.map (·.map (·.length))) T.info.pieces
  rw [hps] at hf
  refine ⟨ps, _, Prod.ext hf rfl, hlen, ?_⟩
  have : ((T.info.files.map (·.map (·.length))).getD []).length = (T.info.files.getD []).length := by
    rcases T.info.files with _ | fs <;> simp
  rw [this] at hc
  exact hc

/-! non-vacuity and tightness -/

-- piece length 1, declared length 2^64, 3 hashes: 8 per hash + 2, nothing from the 2^64; the sharp bound is met
example : (constructMultiC 1 [2^64] [[1], [2], [3]]).2 = 26 ∧ 26 + 4 = 8 * 3 + 6 * 1 := by decide
-- 5 empty files and a 1-byte file inside one piece: the sharp bound is met (8·1 + 6·6 - 4 = 40)
example : (constructMultiC 4 [0, 0, 0, 0, 0, 1] [[1]]).2 = 40 := by decide
-- file ends on a piece boundary, last piece short, a panic on the surplus hash: below the bound
example : (constructMultiC 3 [3, 4] [[1], [2], [3], [4]]) = (none, 29) := by decide
-- the `+ 1` of the linear form
example : (constructMultiC 7 [] [[1]]).2 = 8 * (0 + 0) + 1 := by decide
-- single file: piece length 1, declared length 2^64
example : (constructSingleC 1 (2^64) [[1], [2], [3]]).2 = 13 := by decide

end TB
