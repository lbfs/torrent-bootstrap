/-
  C14 — resize pre-flight: short files zero-extended; any over-long file aborts first.
-/
import TB.Spec.ExportSpec
import TB.Lemmas.Run
import TB.Lemmas.RunB
import TB.Lemmas.RunY
namespace TB
open TB.RB
/-- an existing export image longer than declared -/
def Overlong (fs : Fs) (e : TEntry) : Prop :=
  e.isPad = false ∧ ∃ i, fs.look e.fullTarget = .file i ∧ (fs.content i).length > e.fileLength

theorem RunY.stop1_iff (fs : Fs) (e : TEntry) :
    RunY.stop1 fs e = true ↔ (Overlong fs e ∨ (e.isPad = false ∧ fs.look e.fullTarget = .notDir)) := by
  unfold RunY.stop1 Overlong
  cases hp : e.isPad
  · cases hl : fs.look e.fullTarget <;> simp
  · simp

/-- the first pass only opens files read-only and never changes the tree -/
theorem C14_pass1_readonly (st : St) (table : List TEntry) :
    (resizePass1 st table).1.fs = st.fs ∧
    ∃ new, (resizePass1 st table).1.ops = st.ops ++ new ∧ ∀ o ∈ new, o.kind = .openr :=
  ⟨(RunY.pass1_roext st table).fs, (resizePass1_trace st table).ext⟩

/-- if any existing export image is longer than declared, the first pass reports an error -/
theorem C14_pass1_detects (st : St) (table : List TEntry)
    (h : ∃ e ∈ table, Overlong st.fs e) : (resizePass1 st table).2 = .error := by
  obtain ⟨e, he, hov⟩ := h
  exact RunY.pass1_detects st table ⟨e, he, (RunY.stop1_iff _ _).2 (.inl hov)⟩

/-- with the flag on and an over-long export image present, the run fails before modifying anything -/
theorem C14_abort (H : Bytes → Bytes) (inp : RunIn) (hres : inp.resize = true)
    (hover : ∃ e ∈ buildTable inp.exportDir.path (dedupTorrents (sortTorrents inp.torrents)) 0, Overlong inp.fs e)
    (hne : inp.torrents ≠ []) :
    (run H inp).result = .err ∧ (run H inp).fs = inp.fs ∧ ∀ o ∈ (run H inp).ops, o.kind.mutating = false := by
  have v : RC.ROExt ⟨inp.fs, [], inp.faults⟩ (runSt1 inp) :=
    RC.ROExt.of_trace (validateAll_trace _ _) fun _ h => by rw [h]; rfl
  obtain ⟨x, m1, m2⟩ := v.ops
  cases hv : RB.valOk inp
  · rw [RunY.run_validate_false H inp hne hv]
    refine ⟨rfl, v.fs, fun o ho => m2 o ?_⟩
    rw [show (runSt1 inp).ops = x from m1] at ho
    exact ho
  · obtain ⟨e, he, hov⟩ := hover
    obtain ⟨f1, f2, new, f3, f4⟩ := RunY.fix_stop1_any (runSt1 inp) (runTable0 inp)
      ⟨e, he, (RunY.stop1_iff _ _).2 (.inl (by rw [v.fs]; exact hov))⟩
    rw [RunY.run_fix_error H inp hne hv hres f1]
    refine ⟨rfl, f2.trans v.fs, fun o ho => ?_⟩
    have ho' : o ∈ (fixExportFileLengths (runSt1 inp) (runTable0 inp)).1.ops := ho
    rw [f3, m1] at ho'
    rcases List.mem_append.1 ho' with ho' | ho'
    · exact m2 o ho'
    · rw [f4 o ho']; rfl

/-- the pre-flight never shrinks a file and never changes anything but the length of an export image:
    every operation of the second pass is a read+write open or a set_len to the declared length of a
    non-padding entry whose image is, at that moment, strictly shorter -/
theorem C14_pass2_ops (st : St) (table : List TEntry) :
    ∃ new, (resizePass2 st table).1.ops = st.ops ++ new ∧
      ∀ o ∈ new, ∃ e ∈ table, e.isPad = false ∧ o.path = e.fullTarget ∧
        (o.kind = .openrw ∨ o.kind = .setlen e.fileLength) := by
  obtain ⟨new, h1, h2⟩ := (resizePass2_trace st table).ext
  refine ⟨new, h1, fun o ho => ?_⟩
  obtain ⟨e, he, hp, hk, hpath⟩ := h2 o ho
  exact ⟨e, he, hp, hpath, hk⟩

/-- zero-extension keeps the existing bytes and appends zeros -/
theorem C14_setLen_extend (fs : Fs) (i n : Nat) (h : (fs.content i).length ≤ n) :
    (fs.setLen i n).content i = fs.content i ++ List.replicate (n - (fs.content i).length) 0
    ∧ ∀ j, j ≠ i → (fs.setLen i n).content j = fs.content j :=
  ⟨RunN.setLen_content_same fs i n h, fun j hj => RunN.setLen_content_other fs i j n hj⟩

/-- one step of the second pass on a shorter image (no fault at this point): the image is extended to exactly
    the declared length, old bytes kept, zeros appended -/
theorem C14_extend_step (st : St) (e : TEntry) (es : List TEntry) (i : Nat)
    (hp : e.isPad = false) (hl : st.fs.look e.fullTarget = .file i)
    (hs : (st.fs.content i).length < e.fileLength)
    (hf1 : st.faults.contains st.ops.length = false) (hf2 : st.faults.contains (st.ops.length + 1) = false) :
    ∃ st', resizePass2 st (e :: es) = resizePass2 st' es ∧
      st'.fs.content i = st.fs.content i ++ List.replicate (e.fileLength - (st.fs.content i).length) 0 := by
  have h1 : st.op .openrw e.fullTarget (natOpenrw e.fullTarget) =
      ({ st with ops := st.ops ++ [⟨.openrw, e.fullTarget, true⟩] }, true) := by
    rw [St.op_nofault _ _ _ hf1]
    simp [natOpenrw, hl]
  have h2 : ({ st with ops := st.ops ++ [⟨.openrw, e.fullTarget, true⟩] } : St).op (.setlen e.fileLength) e.fullTarget
      (fun fs => (fs.setLen i e.fileLength, true)) =
      ({ st with fs := st.fs.setLen i e.fileLength, ops := st.ops ++ [⟨.openrw, e.fullTarget, true⟩] ++ [⟨.setlen e.fileLength, e.fullTarget, true⟩] }, true) := by
    rw [St.op_nofault _ _ _ (by simpa using hf2)]
  refine ⟨{ st with fs := st.fs.setLen i e.fileLength, ops := st.ops ++ [⟨.openrw, e.fullTarget, true⟩] ++ [⟨.setlen e.fileLength, e.fullTarget, true⟩] }, ?_, (C14_setLen_extend st.fs i e.fileLength (Nat.le_of_lt hs)).1⟩
  rw [resizePass2_cons, hp, h1, hl]
  simp only [Bool.false_eq_true, if_false, Bool.not_true, hs, if_true, h2]

/-- without the flag a run changes no length outside a write group: every set_len in the log directly follows
    the successful create-open of the same export image -/
theorem C14_noflag (H : Bytes → Bytes) (inp : RunIn) (hres : inp.resize = false) :
    ∀ k n p ok, (run H inp).ops[k]? = some ⟨.setlen n, p, ok⟩ →
      k > 0 ∧ (run H inp).ops[k-1]? = some ⟨.openc, p, true⟩ := by
  intro k n p ok hk
  exact run_follows writerNeed_openc H inp (fun h => by rw [hres] at h; cases h) k _ _ hk rfl

end TB
