/-
  C09 (promptness), loader part — `Torrent::from_bytes` takes a number of elementary steps linear in the length
  of the input, whatever numbers the input contains, and so does loading followed by the piece layout.
  What a step is: see TB/Spec/LoadCost.lean (decoder steps; per key examined by a dictionary lookup the bytes its
  comparison can look at, plus one; per string check one per byte, plus one; per file record, per path component,
  per hash split one, plus the bytes copied; per byte of the info slice hashed).

  Findings.
  * No step of the loader is super-linear. A lookup is a linear search over the keys *of the input's dictionary*
    (their number is not fixed: unknown keys are allowed), but the number of lookups per dictionary is fixed
    (1 in the root, at most 6 in `info`, at most 3 in each file record), a comparison with a fixed key looks at
    no more bytes than the examined key has, and the file records are disjoint parts of the input; so all lookups
    together cost at most 6 × (weight of the info dictionary) + (weight of the root).
  * The constant 20 is an upper bound, not tight: every lookup and every sub-value (name, hash string, file list)
    is charged separately against the whole dictionary. Evaluating `loadC` on adversarial inputs (many short
    unknown keys in `info`) gives about 5.5 steps per byte (checked example below: 5.4).
-/
import TB.Spec.LoadCost
import TB.Lemmas.LoadCost
import TB.Props.C09layoutcost
namespace TB
open TB.Cost TB.LoadCost TB.LoadCostL TB.LCost

/-- the step-counting loader computes exactly what the model loader computes (and so do its parts) -/
theorem C09_load_cost_faithful :
    (∀ H inp, (loadC H inp).1 = load H inp) ∧
    (∀ ks vs, (evaluateInfoC ks vs).1 = evaluateInfo ks vs) ∧
    (∀ items, (evaluateFilesC items).1 = evaluateFiles items) ∧
    (∀ ks vs, (evaluateFileC ks vs).1 = evaluateFile ks vs) ∧
    (∀ items, (pathStringsC items).1 = pathStrings items) ∧
    (∀ n bs, (chunks20C n bs).1 = chunks20 n bs) ∧
    (∀ ks vs key, (findValueC ks vs key).1 = findValue ks vs key) :=
  ⟨fun H inp => fst_of_counted (loadC_spec H inp), fun ks vs => fst_of_counted (evaluateInfoC_spec ks vs),
    fun items => fst_of_counted (evaluateFilesC_spec items), fun ks vs => fst_of_counted (evaluateFileC_spec ks vs),
    fun items => fst_of_counted (pathStringsC_spec items), fun n bs => fst_of_counted (chunks20C_spec n bs),
    fun ks vs key => fst_of_counted (findValueC_spec ks vs key)⟩

/-- loading never takes more than `20·|inp| + 2` steps (the `+ 2` is attained by the empty input), whatever the
    outcome (accepted, refused, panic) and whatever lengths and counts the input declares -/
theorem C09_load_cost_linear (H : Bytes → Bytes) (inp : Bytes) : (loadC H inp).2 ≤ 20 * inp.length + 2 := by
  obtain ⟨n, h, hn⟩ := loadC_spec H inp
  rw [h]; exact hn

/-- an accepted torrent has at most `|inp| / 20` hashes and `|inp| / 2` files (jointly: `20·#hashes + 2·#files ≤
    2·|inp|`), so its layout is linear in the input length as well -/
theorem C09_loaded_counts (H : Bytes → Bytes) (inp : Bytes) (T : Torrent) (h : load H inp = .ok T) :
    20 * T.info.pieces.length + 2 * (T.info.files.getD []).length ≤ 2 * inp.length :=
  load_sizes h

/-- end to end: loading an accepted torrent and computing its piece layout takes at most `28·|inp| + 4` steps,
    and the layout is produced (no panic) -/
theorem C09_load_layout_cost_linear (H : Bytes → Bytes) (inp : Bytes) (T : Torrent) (h : load H inp = .ok T) :
    ∃ ps n, constructPiecesC T.info.pieceLength T.info.length (T.info.files.map (·.map (·.length))) T.info.pieces
        = (some ps, n)
      ∧ (loadC H inp).2 + n ≤ 28 * inp.length + 4 := by
  obtain ⟨ps, n, hps, _, hn⟩ := C09_layout_cost_loaded H inp T h
  have h1 := C09_load_cost_linear H inp
  have h2 := C09_loaded_counts H inp T h
  exact ⟨ps, n, hps, by omega⟩

/-! non-vacuity and tightness -/

-- the empty input meets the bound: the decoder's 2 steps
example : (loadC id []).2 = 20 * 0 + 2 := by decide +kernel

/-- `d4:infod6:lengthi5e4:name1:a12:piece lengthi4e6:pieces40:A…Aee` (single file, 2 hashes, 99 bytes) -/
def c09SampleSingle : Bytes :=
  [100, 52, 58, 105, 110, 102, 111, 100, 54, 58, 108, 101, 110, 103, 116, 104, 105, 53, 101, 52, 58, 110, 97, 109,
   101, 49, 58, 97, 49, 50, 58, 112, 105, 101, 99, 101, 32, 108, 101, 110, 103, 116, 104, 105, 52, 101, 54, 58, 112,
   105, 101, 99, 101, 115, 52, 48, 58] ++ List.replicate 40 65 ++ [101, 101]

/-- `d4:infod5:filesld6:lengthi3e4:pathl1:xeed6:lengthi2e4:pathl1:y1:zeee4:name1:a12:piece lengthi4e6:pieces40:A…Aee`
    (two files, 2 hashes, 148 bytes) -/
def c09SampleMulti : Bytes :=
  [100, 52, 58, 105, 110, 102, 111, 100, 53, 58, 102, 105, 108, 101, 115, 108, 100, 54, 58, 108, 101, 110, 103, 116,
   104, 105, 51, 101, 52, 58, 112, 97, 116, 104, 108, 49, 58, 120, 101, 101, 100, 54, 58, 108, 101, 110, 103, 116,
   104, 105, 50, 101, 52, 58, 112, 97, 116, 104, 108, 49, 58, 121, 49, 58, 122, 101, 101, 101, 52, 58, 110, 97, 109,
   101, 49, 58, 97, 49, 50, 58, 112, 105, 101, 99, 101, 32, 108, 101, 110, 103, 116, 104, 105, 52, 101, 54, 58, 112,
   105, 101, 99, 101, 115, 52, 48, 58] ++ List.replicate 40 65 ++ [101, 101]

-- accepted torrents: the hypotheses of the end-to-end theorem are satisfiable; about 4 steps per byte
example : c09SampleSingle.length = 99 ∧ (loadC id c09SampleSingle).1.isOk = true
    ∧ (loadC id c09SampleSingle).2 = 397 := by decide +kernel
example : c09SampleMulti.length = 148 ∧ (loadC id c09SampleMulti).1.isOk = true
    ∧ (loadC id c09SampleMulti).2 = 601 := by decide +kernel

/-- adversarial shape: `n ≤ 100` unknown two-byte keys (`2:000:`, `2:010:`, …) in front of the known keys of `info` -/
def c09SampleJunk (n : Nat) : Bytes :=
  [100, 52, 58, 105, 110, 102, 111, 100] ++
  (List.range n).flatMap (fun i => [50, 58, UInt8.ofNat (48 + i / 10), UInt8.ofNat (48 + i % 10), 48, 58]) ++
  [54, 58, 108, 101, 110, 103, 116, 104, 105, 53, 101, 52, 58, 110, 97, 109, 101, 49, 58, 97, 49, 50, 58, 112, 105,
   101, 99, 101, 32, 108, 101, 110, 103, 116, 104, 105, 52, 101, 54, 58, 112, 105, 101, 99, 101, 115, 52, 48, 58] ++
  List.replicate 40 65 ++ [101, 101]

-- every unknown key is walked over by each of the 6 lookups of `evaluate_info`: 5.4 steps per byte here,
-- still far below the proven 20
example : (c09SampleJunk 50).length = 399 ∧ (loadC id (c09SampleJunk 50)).1.isOk = true
    ∧ (loadC id (c09SampleJunk 50)).2 = 2147 := by decide +kernel

end TB
