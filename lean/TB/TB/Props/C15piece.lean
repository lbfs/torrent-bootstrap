import TB.Props.C15avail
namespace TB
open TB.RB

theorem tally_snoc (c : Counters) (l : List Solved) (x : Solved) :
    tally c (l ++ [x]) = (tally c l).bump x := by
  simp [tally, List.foldl_append]

/-- AVAILABLE ⇒ COUNTED, piece by piece: in a run that ends `ok` on a well-formed tree, a work item `w` evaluated at
    position `|pre|`, available in scan-only files, whose evaluation does not end in an I/O error, is the piece that
    the record at that position counts as one more success: the record exists, and its `success` is one more than
    the tally of the outcomes before it, `failed` and `fault` unchanged. -/
theorem C15_available_piece_counted (H : Bytes → Bytes) (inp : RunIn) (hwf : FsWF inp.fs)
    (hok : (run H inp).result = .ok ())
    (w : Work) (havail : AvailScan H inp.fs inp.scan (run H inp).table w)
    (pre post : List Work) (hord : RunQ.evalOrder (run H inp).work inp.order = pre ++ w :: post)
    (hnofault : (solvePiece H (solveAll H (runSt3 inp) pre ⟨0, 0, 0⟩ []).1 w).2 ≠ .fault) :
    ∃ r, (run H inp).counters[pre.length]? = some r ∧
      r = (tally ⟨0, 0, 0⟩ ((outcomes H (runSt3 inp) (pre ++ w :: post)).take pre.length)).bump .found := by
  have hp : (solveAll H (runSt3 inp) (RunQ.evalOrder (run H inp).work inp.order) ⟨0, 0, 0⟩ []).2.2 = false := by
    rcases RunQ.run_eval_or H inp with ⟨hw, _⟩ | ⟨_, _, _, _, _, hres⟩
    · rw [hw, RunQ.evalOrder_nil] at hord
      cases pre <;> cases hord
    · exact RunQ.flag_of_result hres (by rw [hok]; exact fun h => nomatch h)
  have hcnt := C15_run_counters_exact H inp hok
  have hnf := C02_run_not_failed H inp hwf w havail pre post hord
  rw [hord] at hcnt hp
  have hpp := solveAll_append_flag H _ pre (w :: post) _ _ hp
  have hat := outcomes_at H (runSt3 inp) pre w post ⟨0, 0, 0⟩ [] hpp
  have hnp := outcomes_no_panic H _ _ _ _ hp
  have hmem := List.mem_of_getElem? hat
  have hfound : (solvePiece H (solveAll H (runSt3 inp) pre ⟨0, 0, 0⟩ []).1 w).2 = .found := by
    generalize (solvePiece H (solveAll H (runSt3 inp) pre ⟨0, 0, 0⟩ []).1 w).2 = r at hnf hnofault hmem
    cases r
    · rfl
    all_goals first | exact absurd rfl hnf | exact absurd rfl hnofault | exact absurd hmem hnp
  rw [hfound] at hat
  have hlt : pre.length < (pre ++ w :: post).length := by simp
  refine ⟨_, ?_, rfl⟩
  rw [hcnt, List.getElem?_map, List.getElem?_range hlt, Option.map_some, List.take_add_one, hat,
    Option.toList_some, tally_snoc]

end TB
