/-
  C01 (end state) — after any run every byte of every file is what it was before, a zero produced by extending a
  file, or the correct torrent byte: the byte that the layout assigns to that file offset inside a buffer whose
  hash is the piece hash.
-/
import TB.Spec.ExportSpec
import TB.Props.C01
import TB.Props.C11
import TB.Props.C04a
import TB.Lemmas.RunJ
import TB.Lemmas.RunJCex
namespace TB

/-- `x` is the correct torrent byte at offset `k` of the file `p`: some work item of the run has a non-padding
    segment whose export image is `p` and whose range contains `k`, and `x` is the byte which a buffer with the
    piece's hash holds at the position the layout assigns to that offset -/
def GoodByte (H : Bytes → Bytes) (work : List Work) (p : Path) (k : Nat) (x : UInt8) : Prop :=
  ∃ w ∈ work, ∃ (j : Nat) (seg : WSeg) (buf : Bytes),
    w.segs[j]? = some seg ∧ seg.ent.isPad = false ∧ seg.ent.fullTarget = p ∧
    seg.off ≤ k ∧ k < seg.off + seg.len ∧ H buf = w.hash ∧
    buf[segStart w.segs j + (k - seg.off)]? = some x

/-- no export image shares its inode with another name (DESIGN §8, NoAliasAcrossExport) -/
def NoAlias (fs : Fs) (table : List TEntry) : Prop :=
  ∀ e ∈ table, e.isPad = false → ∀ q i, fs.inoOf e.fullTarget = some i → fs.inoOf q = some i → q = e.fullTarget

/-- the byte sentence for `fs` against the initial tree `fs0`: every byte behind every bound name is the byte `fs0`
    had there, a zero at or beyond the original length of that file, or a correct torrent byte -/
def BytesOk (H : Bytes → Bytes) (work : List Work) (fs0 fs : Fs) : Prop :=
  ∀ p i, fs.inoOf p = some i → ∀ k x, (fs.content i)[k]? = some x →
    (∃ i0, fs0.inoOf p = some i0 ∧ (fs0.content i0)[k]? = some x)
    ∨ (x = 0 ∧ ∀ i0, fs0.inoOf p = some i0 → (fs0.content i0).length ≤ k)
    ∨ GoodByte H work p k x

/-- the end-state sentence of C01 for a whole run.

    `hsame` (non-padding table entries with the same export image declare the same length) is there because the
    statement is false without it; the world is the checked example `TB.Lemmas.RunJCex` (`H = id`): one torrent
    lists the path `x` twice (finding D6), once with length 2 and once with length 1, and the image exists with
    content `[5, 6]`. The piece of the length-1 entry is found first: `set_len 1` truncates the image to `[5]`; then
    a piece of the length-2 entry is found: `set_len 2` re-extends the image with a zero at offset 1, and only offset
    0 is written. Byte 1 is now `0`: it was `6`, it lies below the original length, and the piece covering it was
    never found. `FsWF`, `NoAlias` (which says nothing about two entries with the same image) and `SegsInRange` all
    hold in that world (`RunJ.Cex.wf`, `noAlias`, `segsInRange`, `not_sameLen`, `not_bytesOk`). With `hsame` a
    `set_len` extends an image only from its original length, so the zeros lie beyond it. -/
theorem C01_bytes (H : Bytes → Bytes) (inp : RunIn) (hwf : FsWF inp.fs)
    (hna : NoAlias inp.fs (run H inp).table) (hrange : ∀ w ∈ (run H inp).work, SegsInRange w)
    (hsame : ∀ e ∈ (run H inp).table, ∀ f ∈ (run H inp).table, e.isPad = false → f.isPad = false →
      e.fullTarget = f.fullTarget → e.fileLength = f.fileLength) :
    BytesOk H (run H inp).work inp.fs (run H inp).fs := by
  rw [C11_replay]
  exact (RunJ.inv_replay H inp hwf hna hsame hrange _ (fun _ h => h)).bytes

/-- and for every interruption point: the tree replayed from any prefix of the log satisfies the same
    (`hsame`: see `C01_bytes`) -/
theorem C01_bytes_prefix (H : Bytes → Bytes) (inp : RunIn) (hwf : FsWF inp.fs)
    (hna : NoAlias inp.fs (run H inp).table) (hrange : ∀ w ∈ (run H inp).work, SegsInRange w)
    (hsame : ∀ e ∈ (run H inp).table, ∀ f ∈ (run H inp).table, e.isPad = false → f.isPad = false →
      e.fullTarget = f.fullTarget → e.fileLength = f.fileLength) (n : Nat) :
    BytesOk H (run H inp).work inp.fs (replay inp.fs ((run H inp).ops.take n)) :=
  (RunJ.inv_replay H inp hwf hna hsame hrange _ (fun _ h => List.mem_of_mem_take h)).bytes

/-- `C01_bytes` without `hsame` is refuted by the world of `TB.Lemmas.RunJCex` -/
theorem C01_bytes_needs_hsame :
    ¬ (∀ (H : Bytes → Bytes) (inp : RunIn), FsWF inp.fs → NoAlias inp.fs (run H inp).table →
        (∀ w ∈ (run H inp).work, SegsInRange w) → BytesOk H (run H inp).work inp.fs (run H inp).fs) :=
  fun h => RunJ.Cex.not_bytesOk (h id RunJ.Cex.inp RunJ.Cex.wf RunJ.Cex.noAlias RunJ.Cex.segsInRange)

end TB
