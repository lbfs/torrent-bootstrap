/-
  C14 (tree level) — with the flag on, no over-long image and no fault, the pre-flight leaves every existing shorter
  export image zero-extended to exactly its declared length (old bytes kept), and touches nothing else.
-/
import TB.Spec.ExportSpec
import TB.Props.C14
import TB.Props.C04a
import TB.Props.C01bytes
import TB.Lemmas.RunY
namespace TB

/-- entries sharing an image declare one length, and distinct images are distinct inodes -/
def TableSane (fs : Fs) (table : List TEntry) : Prop :=
  (∀ e ∈ table, ∀ f ∈ table, e.isPad = false → f.isPad = false → e.fullTarget = f.fullTarget → e.fileLength = f.fileLength) ∧
  (∀ e ∈ table, ∀ f ∈ table, e.isPad = false → f.isPad = false → e.fullTarget ≠ f.fullTarget →
    ∀ i j, fs.inoOf e.fullTarget = some i → fs.inoOf f.fullTarget = some j → i ≠ j)

theorem C14_extend (st : St) (table : List TEntry)
    (hnf : st.faults = []) (hwf : FsWF st.fs) (hsane : TableSane st.fs table)
    (hnoover : ∀ e ∈ table, ¬ Overlong st.fs e)
    (hlook : ∀ e ∈ table, e.isPad = false → st.fs.look e.fullTarget ≠ .notDir ∧ st.fs.look e.fullTarget ≠ .dir) :
    (fixExportFileLengths st table).2 = .continue ∧
    (∀ e ∈ table, e.isPad = false → ∀ i, st.fs.look e.fullTarget = .file i →
      (fixExportFileLengths st table).1.fs.look e.fullTarget = .file i ∧
      (fixExportFileLengths st table).1.fs.content i =
        st.fs.content i ++ List.replicate (e.fileLength - (st.fs.content i).length) 0) ∧
    (∀ p i, st.fs.inoOf p = some i → (∀ e ∈ table, e.isPad = false → e.fullTarget ≠ p) →
      (∀ e ∈ table, e.isPad = false → st.fs.inoOf e.fullTarget ≠ some i) →
      (fixExportFileLengths st table).1.fs.inoOf p = some i ∧ (fixExportFileLengths st table).1.fs.content i = st.fs.content i) := by
  obtain ⟨hs1, hs2⟩ := hsane
  have hn1 : ¬ ∃ e ∈ table, RunY.stop1 st.fs e = true := by
    rintro ⟨e, he, hs⟩
    rcases (RunY.stop1_iff _ _).1 hs with h | ⟨hp, h⟩
    · exact hnoover e he h
    · exact (hlook e he hp).1 h
  have hn2 : ∀ e ∈ table, RunY.stop2 st.fs e = false := fun e he =>
    Bool.eq_false_iff.2 fun hs =>
      have ⟨hp, h⟩ := (RunY.stop2_iff _ _).1 hs
      h.elim (hlook e he hp).1 (hlook e he hp).2
  obtain ⟨g1, g2⟩ := RunY.fix_spec st hnf table
  have hfs := (g2 hn1).1
  rw [RunY.pre2_all _ _ hn2] at hfs
  have hc : (fixExportFileLengths st table).2 = .continue :=
    (RunY.flow_cases _).resolve_left fun h =>
      (g1.1 h).elim hn1 fun ⟨e, he, hs⟩ => by rw [hn2 e he] at hs; cases hs
  -- the tree is `RunN.step` folded over the table: contents only grow by zeros, up to a declared length
  obtain ⟨qf, qd, _, qc⟩ := RunY.foldl_step_grown table st.fs
  rw [hfs]
  refine ⟨hc, fun e he hp i hi => ⟨?_, ?_⟩, fun p i hpi _ hno => ⟨?_, ?_⟩⟩
  · rw [RunF.look_congr qf qd]; exact hi
  · obtain ⟨k, ck, wk⟩ := qc i
    rw [ck]
    suffices h : e.fileLength - (st.fs.content i).length = k by rw [h]
    by_cases hk : k = 0
    · -- nothing was appended: the image already had (at least) the declared length
      have hlen := RunY.foldl_step_reaches table st.fs e he hp i hi
      rw [ck, hk, List.replicate_zero, List.append_nil] at hlen
      rw [hk]
      exact Nat.sub_eq_zero_of_le hlen
    · -- the new length is the declared length of an entry with this image, which declares what `e` declares
      obtain ⟨e', he', hp', hl', _, hc'⟩ := wk hk
      have : e'.fileLength = e.fileLength := by
        by_cases hne : e'.fullTarget = e.fullTarget
        · exact hs1 e' he' e he hp' hp hne
        · exact absurd rfl (hs2 e' he' e he hp' hp hne i i (RunF.look_file_inoOf hl') (RunF.look_file_inoOf hi))
      rw [ck, List.length_append, List.length_replicate, this] at hc'
      rw [← hc']
      exact Nat.add_sub_cancel_left ..
  · unfold Fs.inoOf
    rw [qf]
    exact hpi
  · obtain ⟨k, ck, wk⟩ := qc i
    by_cases hk : k = 0
    · rw [ck, hk]; exact List.append_nil _
    · obtain ⟨e', he', hp', hl', _⟩ := wk hk
      exact absurd (RunF.look_file_inoOf hl') (hno e' he' hp')

end TB
