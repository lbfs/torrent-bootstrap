/-
  C16 (run level) — for every set of loadable torrents a run returns a result rather than panicking: the work
  list can always be built (layout total, every segment's entry is in the table) and every work item meets the
  side conditions under which evaluating it cannot panic.
-/
import TB.Spec.ExportSpec
import TB.Props.C06
import TB.Props.C10
import TB.Props.C16
import TB.Lemmas.RunH
namespace TB

/-- a torrent as the loader produces them -/
def Loadable (H : Bytes → Bytes) (t : Torrent) : Prop := ∃ doc, load H doc = .ok t

/-- a torrent whose info dictionary is canonical and accepted by `specInfo` is loaded (`H = id`) from the encoding of
    the root dictionary that holds just that info dictionary -/
theorem Loadable.of_info {infod : List (Bytes × BVal)} {info : Info}
    (hc : canon (.dict [(kInfo, .dict infod)]) = true) (hs : specInfo infod = some info) :
    Loadable id ⟨info, encode (.dict infod)⟩ := by
  refine ⟨_, (C10_iff id _ _).2 ⟨_, hc, rfl, ?_⟩⟩
  have : dictGet [(kInfo, BVal.dict infod)] kInfo = some (.dict infod) := by simp [dictGet]
  simp only [specLoad, this, hs]
  rfl

/-- the table has an entry for every file of every torrent it was built from -/
theorem C16_table_complete (exportDir : Path) (ts : List Torrent) (id0 : Nat) (t : Torrent) (ht : t ∈ ts) :
    (∀ l, t.info.files = none → t.info.length = some l →
        ∃ e ∈ buildTable exportDir ts id0, e.infoHash = t.infoHash ∧ e.fileIndex = 0) ∧
    (∀ fs, t.info.files = some fs → ∀ k, k < fs.length →
        ∃ e ∈ buildTable exportDir ts id0, e.infoHash = t.infoHash ∧ e.fileIndex = k) := by
  exact RunH.buildTable_complete exportDir ts id0 t ht

/-- converting the pieces of loadable torrents to work never fails (`lookup.get(..).unwrap()` and the layout
    are total), provided the table was built from (a superset of) those torrents -/
theorem C16_work_total (H : Bytes → Bytes) (exportDir : Path) (all ts : List Torrent) (c : Cache) (obs : List (Nat × List Path))
    (hsub : ∀ t ∈ ts, t ∈ all) (hload : ∀ t ∈ ts, Loadable H t) :
    (convertPiecesToWork (populateSearches c obs (buildTable exportDir all 0)).1 ts).isSome = true := by
  exact RunH.convert_isSome H exportDir all ts c obs hsub hload

/-- every work item of a loadable torrent has positive length unless it is padding-only, and a single-segment
    item is never an empty non-padding segment (the side condition `hsingle` of C16_piece_total_partial) -/
theorem C16_work_single (H : Bytes → Bytes) (table : List TEntry) (t : Torrent) (ws : List Work)
    (hload : Loadable H t) (hw : workOfTorrent table t = some ws) :
    ∀ w ∈ ws, ∀ s, w.segs = [s] → s.len ≠ 0 := by
  exact RunH.workOfTorrent_single H table t ws hload hw

/-- run level: a run on loadable torrents never ends in `panic`, provided any byte string hashing to a piece
    hash has that piece's length -/
theorem C16_run_total_partial (H : Bytes → Bytes) (inp : RunIn)
    (hload : ∀ t ∈ inp.torrents, Loadable H t)
    (hlen : ∀ w ∈ (run H inp).work, ∀ b, H b = w.hash → b.length = (w.segs.map (·.len)).sum) :
    (run H inp).result ≠ .panic := by
  exact RunH.run_no_panic H inp hload

end TB
