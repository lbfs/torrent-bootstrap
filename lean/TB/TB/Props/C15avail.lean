/-
  C15 (available ⇒ succeeded) — the remaining direction of "the figures are truthful": if the data of every piece is
  present in scan-only files (`AvailScan`, the hypothesis of C02), the run ends `ok` and no evaluation ends in an I/O
  error, the final record reports EVERY piece as succeeded (`C15_available_all_succeeded`). Built from the exact
  accounting of TB.Props.C15exact and `C02_run_not_failed`; the last example instantiates every hypothesis on the
  two-piece world `TB.RunQ.Ex`.
-/
import TB.Props.C15exact
import TB.Props.C02chain
import TB.Lemmas.RunQCex
namespace TB
open TB.RB

theorem solveAll_append_flag (H : Bytes → Bytes) (st : St) (pre post : List Work) (c : Counters) (acc : List Counters)
    (h : (solveAll H st (pre ++ post) c acc).2.2 = false) : (solveAll H st pre c acc).2.2 = false := by
  rcases RunQ.solveAll_append H pre post st c acc with ⟨hf, e⟩ | ⟨hf, _⟩
  · rw [e, hf] at h; cases h
  · exact hf

/-- the outcome list at position |pre| is the outcome of evaluating that piece in the state `solveAll` reaches after `pre`
    (the counters and the accumulator do not influence the state) -/
theorem outcomes_at (H : Bytes → Bytes) (st : St) (pre : List Work) (w : Work) (post : List Work) (c : Counters) (acc : List Counters)
    (h : (solveAll H st pre c acc).2.2 = false) :
    (outcomes H st (pre ++ w :: post))[pre.length]? = some (solvePiece H (solveAll H st pre c acc).1 w).2 := by
  induction pre generalizing st c acc with
  | nil => simp [outcomes, solveAll]
  | cons v pre ih =>
    rw [solveAll_cons] at h ⊢
    by_cases hp : (solvePiece H st v).2 = .panic
    · rw [if_pos hp] at h; cases h
    · rw [if_neg hp] at h ⊢
      simp only [List.cons_append, outcomes, List.length_cons, List.getElem?_cons_succ]
      exact ih _ _ _ h

theorem outcomes_no_panic (H : Bytes → Bytes) (st : St) (ws : List Work) (c : Counters) (acc : List Counters)
    (h : (solveAll H st ws c acc).2.2 = false) : Solved.panic ∉ outcomes H st ws := by
  induction ws generalizing st c acc with
  | nil => simp [outcomes]
  | cons v ws ih =>
    rw [solveAll_cons] at h
    by_cases hp : (solvePiece H st v).2 = .panic
    · rw [if_pos hp] at h; cases h
    · rw [if_neg hp] at h
      simp only [outcomes, List.mem_cons, not_or]
      exact ⟨fun e => hp e.symm, ih _ _ _ h⟩

/-- AVAILABLE ⇒ SUCCEEDED, for the whole run: on a well-formed tree, if every work item's data is present in scan-only
    files (`AvailScan`, as in C02), the run ends `ok`, and no evaluation ends in an I/O error, then the final record
    reports every piece as succeeded, none failed, none in error. -/
theorem C15_available_all_succeeded (H : Bytes → Bytes) (inp : RunIn) (hwf : FsWF inp.fs)
    (hok : (run H inp).result = .ok ())
    (hall : ∀ w ∈ (run H inp).work, AvailScan H inp.fs inp.scan (run H inp).table w)
    (hnofault : ∀ pre w post, RunQ.evalOrder (run H inp).work inp.order = pre ++ w :: post →
      (solvePiece H (solveAll H (runSt3 inp) pre ⟨0, 0, 0⟩ []).1 w).2 ≠ .fault)
    (last : Counters) (hl : (run H inp).counters.getLast? = some last) :
    last.success = (run H inp).work.length ∧ last.failed = 0 ∧ last.fault = 0 := by
  obtain ⟨h1, h2, h3⟩ := C15_run_final_figures H inp hok last hl
  have hp : (solveAll H (runSt3 inp) (RunQ.evalOrder (run H inp).work inp.order) ⟨0, 0, 0⟩ []).2.2 = false := by
    rcases RunQ.run_eval_or H inp with ⟨_, h0, _⟩ | ⟨_, _, _, _, _, hres⟩
    · rw [h0] at hl; cases hl
    · exact RunQ.flag_of_result hres (by rw [hok]; exact fun h => nomatch h)
  have hfound : ∀ r ∈ outcomes H (runSt3 inp) (RunQ.evalOrder (run H inp).work inp.order), r = Solved.found := by
    intro r hr
    obtain ⟨k, hk, hkr⟩ := List.getElem_of_mem hr
    rw [outcomes_length] at hk
    have hsplit : RunQ.evalOrder (run H inp).work inp.order
        = (RunQ.evalOrder (run H inp).work inp.order).take k
          ++ (RunQ.evalOrder (run H inp).work inp.order)[k] :: (RunQ.evalOrder (run H inp).work inp.order).drop (k + 1) := by
      rw [List.getElem_cons_drop, List.take_append_drop]
    generalize hpre : (RunQ.evalOrder (run H inp).work inp.order).take k = pre at hsplit
    generalize (RunQ.evalOrder (run H inp).work inp.order)[k] = w at hsplit
    generalize (RunQ.evalOrder (run H inp).work inp.order).drop (k + 1) = post at hsplit
    have hlen : pre.length = k := by rw [← hpre, List.length_take]; omega
    have hpp : (solveAll H (runSt3 inp) pre ⟨0, 0, 0⟩ []).2.2 = false :=
      solveAll_append_flag H _ pre (w :: post) _ _ (hsplit ▸ hp)
    have hat := outcomes_at H (runSt3 inp) pre w post ⟨0, 0, 0⟩ [] hpp
    rw [← hsplit, hlen] at hat
    have hwmem : w ∈ (run H inp).work :=
      RunQ.mem_evalOrder.1 (by rw [hsplit]; simp)
    have hnf := C02_run_not_failed H inp hwf w (hall w hwmem) pre post hsplit
    have hnft := hnofault pre w post hsplit
    have hnp := outcomes_no_panic H _ _ _ _ hp
    have hre : r = (solvePiece H (solveAll H (runSt3 inp) pre ⟨0, 0, 0⟩ []).1 w).2 := by
      have : (outcomes H (runSt3 inp) (RunQ.evalOrder (run H inp).work inp.order))[k]? = some r := by
        rw [List.getElem?_eq_getElem (by rw [outcomes_length]; exact hk), hkr]
      rw [this] at hat
      exact Option.some.inj hat
    have hrp : r ≠ .panic := fun e => hnp (e ▸ hr)
    rw [← hre] at hnf hnft
    cases r
    · rfl
    all_goals first | exact absurd rfl hnf | exact absurd rfl hnft | exact absurd rfl hrp
  refine ⟨?_, ?_, ?_⟩
  · rw [h1, List.count_eq_length.2 (fun r hr => (hfound r hr).symm), outcomes_length]
    exact (RunQ.evalOrder_perm _ _).length_eq
  · rw [h2, List.count_eq_zero]
    intro hm; cases hfound _ hm
  · rw [h3, List.count_eq_zero]
    intro hm; cases hfound _ hm

/-! #### non-vacuity: the world `RunQ.Ex` (two pieces, both available) meets every hypothesis -/
section
open TB.RunQ TB.RunQ.Ex
example : ∃ last, (run id inp).counters.getLast? = some last ∧
    last.success = (run id inp).work.length ∧ last.failed = 0 ∧ last.fault = 0 := by
  have hw : (run id inp).work = [w0, w1] ∨ (run id inp).work = [w1, w0] := by decide +kernel
  cases hl : (run id inp).counters.getLast? with
  | none => exact absurd hl (by decide +kernel)
  | some last =>
    refine ⟨last, rfl, C15_available_all_succeeded id inp wf (by decide +kernel) ?_ ?_ last hl⟩
    · intro w hwm
      rcases hw with e | e <;> rw [e] at hwm <;> simp at hwm <;> rcases hwm with r | r <;> subst r
      all_goals first | exact avail0 | exact avail1
    · intro pre w post hord
      rw [ord] at hord
      match pre, hord with
      | [], h => 
        have : w = w1 := by simpa using (List.cons.inj h).1.symm
        subst this; decide +kernel
      | [x], h =>
        have h1 := (List.cons.inj h).1
        have h2 := (List.cons.inj (List.cons.inj h).2).1
        subst h1; subst h2; decide +kernel
      | _ :: _ :: _ :: _, h => simp at h
      | [_, _], h => simp at h
end

end TB
