/-
  C04 (clause a) / C15 (success is sound) — a piece reported as found verifies in the export tree afterwards.
  This is the statement about the tree (the operation-level statement is C01_write_sound).
-/
import TB.Spec.ExportSpec
import TB.Lemmas.RunF
import TB.Lemmas.RunFW
import TB.Lemmas.RunFV
import TB.Lemmas.RunFCex
namespace TB
open TB.RunF

/-- well-formed tree: every inode bound to a name is below `next` (so a created file gets a fresh inode),
    names are bound once, no name is both a file and a directory, and every proper prefix of a bound file name
    is a directory (without the last clause `openCreate` could create a regular file at `a` while `a/b` is bound,
    after which `look (a/b)` is ENOTDIR) -/
def FsWF (fs : Fs) : Prop :=
  (∀ p i, (p, i) ∈ fs.files → i < fs.next) ∧
  (fs.files.map (·.1)).Nodup ∧
  (∀ p i, (p, i) ∈ fs.files → fs.isDir p = false) ∧
  (∀ p i, (p, i) ∈ fs.files → ∀ q ∈ Fs.properPrefixes p, fs.isDir q = true)

/-- `FsWF` in a form `decide` can check on a concrete tree -/
theorem FsWF.of_check (fs : Fs) (h1 : ∀ e ∈ fs.files, e.2 < fs.next) (h2 : (fs.files.map (·.1)).Nodup)
    (h3 : ∀ e ∈ fs.files, fs.isDir e.1 = false)
    (h4 : ∀ e ∈ fs.files, ∀ q ∈ Fs.properPrefixes e.1, fs.isDir q = true) : FsWF fs :=
  ⟨fun p i h => h1 (p, i) h, h2, fun p i h => h3 (p, i) h, fun p i h => h4 (p, i) h⟩

/-- the checked worlds (`….Cex`, `….Ex`) decide `FsWF` of their trees as it stands: its four clauses are statements
    about the bindings of the tree (`FsWF.of_check`) -/
instance (fs : Fs) : Decidable (FsWF fs) :=
  decidable_of_iff
    ((∀ e ∈ fs.files, e.2 < fs.next) ∧ (fs.files.map (·.1)).Nodup ∧ (∀ e ∈ fs.files, fs.isDir e.1 = false) ∧
      ∀ e ∈ fs.files, ∀ q ∈ Fs.properPrefixes e.1, fs.isDir q = true)
    ⟨fun h => FsWF.of_check fs h.1 h.2.1 h.2.2.1 h.2.2.2,
      fun h => ⟨fun e m => h.1 e.1 e.2 m, h.2.1, fun e m => h.2.2.1 e.1 e.2 m, fun e m => h.2.2.2 e.1 e.2 m⟩⟩

/-- the export images of the non-padding segments of one piece are pairwise distinct files: distinct paths, and
    distinct inodes where they already exist (no hard links between export images; DESIGN §8 NoAliasAcrossExport) -/
def ImagesDistinct (fs : Fs) (w : Work) : Prop :=
  ∀ (a b : Nat) (s t : WSeg), w.segs[a]? = some s → w.segs[b]? = some t → a ≠ b →
    s.ent.isPad = false → t.ent.isPad = false →
    s.ent.fullTarget ≠ t.ent.fullTarget ∧
    (∀ i j, fs.inoOf s.ent.fullTarget = some i → fs.inoOf t.ent.fullTarget = some j → i ≠ j)

/-- every segment lies inside its file (a fact of the layout, C06) -/
def SegsInRange (w : Work) : Prop := ∀ s ∈ w.segs, s.off + s.len ≤ s.ent.fileLength

/-- the checked worlds decide `SegsInRange` of their evaluated work items -/
instance (w : Work) : Decidable (SegsInRange w) := by unfold SegsInRange; infer_instance

/-- clause a of C04 for the piece itself, and soundness of "succeeded" (C15): if evaluating a piece ends in
    `found`, the piece verifies in the export tree afterwards — whether its segments were written, skipped because
    they were matched from their own export image, or are padding. `hlen` (a byte string with the piece's hash
    has the piece's length) rules out a short read that happens to hash correctly; `hfiles` says candidates are
    regular files (the index only registers regular files).

    Two hypotheses are there because the statement is false without them (both worlds are checked examples in
    `TB.Lemmas.RunFCex`, with `H = id`):
    * the fourth clause of `FsWF` (proper prefixes of bound file names are directories): with `a/b` bound but `a`
      not a directory, a piece whose segment A (image `a/b`) is matched from its own image and whose segment B
      (image `a`) is written makes `openCreate a` create a regular file at `a`; afterwards `look (a/b) = notDir`
      and segment A cannot be read back;
    * `hzero` (a zero-length segment belongs to an empty file — the layout fact of C06; with `SegsInRange` it
      gives `off = 0`): a segment with `len = 0`, `off = 1` whose image exists and is empty is "read" without
      looking at the content (`take(0)`), matches `H []`, is skipped as its own source, and `segBytesIn` then
      fails on `off + len ≤ length`. -/
theorem C04a_found_verifies (H : Bytes → Bytes) (st : St) (w : Work)
    (hwf : FsWF st.fs) (hdist : ImagesDistinct st.fs w) (hrange : SegsInRange w)
    (hlen : ∀ b, H b = w.hash → b.length = (w.segs.map (·.len)).sum)
    (hzero : ∀ s ∈ w.segs, s.len = 0 → s.ent.fileLength = 0)
    (hfiles : ∀ s ∈ w.segs, ∀ paths, s.ent.searches = some paths → ∀ p ∈ paths, ∃ i, st.fs.look p = .file i)
    (hfound : (solvePiece H st w).2 = .found) :
    VerE H (solvePiece H st w).1.fs w := by
  have hpw : List.Pairwise (DistR st.fs) w.segs := by
    rw [List.pairwise_iff_getElem]
    intro a b ha hb hab hs ht
    exact hdist a b _ _ (List.getElem?_eq_getElem ha) (List.getElem?_eq_getElem hb) (by omega) hs ht
  revert hfound
  -- `found` comes out of three branches of `solvePiece`
  fun_cases solvePiece H st w
  -- a piece inside a padding file: nothing is read or written
  case case2 seg hw hpad hh =>
    intro _
    refine verifies_of_chosen H st st w [(none, List.replicate seg.len 0)] hwf hpw hrange hlen hzero hfiles
      (by rw [hw]; rfl) ?_ (by simpa using hh) ?_
    · intro x hx
      rw [hw] at hx
      simp only [List.zip_cons_cons, List.zip_nil_right, List.mem_singleton] at hx
      subst hx
      refine ⟨fun _ => rfl, ?_, ?_⟩ <;> (intro hp; rw [hpad] at hp; cases hp)
    · rw [hw]
      simp only [List.map_cons, List.map_nil, List.zip_cons_cons, List.zip_nil_right]
      rw [writeSegs_skip (Or.inl hpad)]
      rfl
  -- one segment: the scan matched candidate `src`, the writer ran on it
  case case5 seg hw hpad paths hs st1 src bytes hscan =>
    intro hfound
    have hpad := Bool.eq_false_iff.2 hpad
    have e := (RC.ROExt.of_eq hscan (RC.scanSingle_ext H w.hash _ st _)).fs
    rw [← e] at hwf hpw hfiles
    obtain ⟨hsrc, hb⟩ := scanSingle_sound _ _ _ _ _ hscan
    have hwr : writeSegs st1 [(seg, some src)] bytes 0 = (_, .found) := Prod.ext rfl hfound
    refine verifies_of_chosen H st1 _ w [(some src, bytes)] hwf hpw hrange hlen hzero hfiles
      (by rw [hw]; rfl) ?_ (by simpa using scanSingle_hash hscan) ?_
    · intro x hx
      rw [hw] at hx
      simp only [List.zip_cons_cons, List.zip_nil_right, List.mem_singleton] at hx
      subst hx
      refine ⟨?_, ?_, ?_⟩
      · intro hp; rw [hpad] at hp; cases hp
      · intro _ hp; rw [hs] at hp; cases hp
      · intro _ paths' hp
        rw [hs] at hp; cases hp
        exact ⟨src, hsrc, rfl, by rw [e]; exact hb⟩
    · rw [hw]
      simpa using hwr
  -- several segments: the product search chose one preloaded entry per segment, the writer ran on them
  case case9 st1 loaded chosen hsearch _ hpre =>
    intro hfound
    have e := (RC.ROExt.of_eq hpre (RC.preload_ext st w.segs)).fs
    obtain ⟨hl1, hz1⟩ := preload_sound hpre
    obtain ⟨picks, hp1, hp2, hp3⟩ := searchProduct_picks _ _ _ hsearch
    rw [List.nil_append] at hp1
    subst hp1
    have hsel := zip_compose (P := Sel st.fs) w.segs loaded chosen hl1 hp2 hz1 hp3
    rw [← e] at hwf hpw hfiles hsel
    exact verifies_of_chosen H st1 _ w chosen hwf hpw hrange hlen hzero hfiles (by rw [hl1, hp2]) hsel
      (searchProduct_hash hsearch) (Prod.ext rfl hfound)
  all_goals exact fun h => by cases h

/-- the tree stays well-formed under every operation of a piece evaluation -/
theorem C04a_wf_preserved (H : Bytes → Bytes) (st : St) (w : Work) (hwf : FsWF st.fs) :
    FsWF (solvePiece H st w).1.fs :=
  (solvePiece_loc H st w).wf hwf

/-- frame: evaluating a piece changes no file other than the export images of its own non-padding segments —
    every inode that is not the image of such a segment (before or after) keeps its content, and every name other
    than those images keeps its binding -/
theorem C04a_frame (H : Bytes → Bytes) (st : St) (w : Work) (hwf : FsWF st.fs) (p : Path) (i : Nat)
    (hp : st.fs.inoOf p = some i)
    (hnot : ∀ s ∈ w.segs, s.ent.isPad = false → s.ent.fullTarget ≠ p ∧ st.fs.inoOf s.ent.fullTarget ≠ some i) :
    (solvePiece H st w).1.fs.inoOf p = some i ∧ (solvePiece H st w).1.fs.content i = st.fs.content i := by
  have L := solvePiece_loc H st w
  refine ⟨L.ino_pres p i hp, L.content i (inoOf_lt hwf hp) ?_⟩
  rintro t ⟨s, hs, hpad, rfl⟩
  exact (hnot s hs hpad).2

end TB
