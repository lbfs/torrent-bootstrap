/-
  C09 (promptness) — decoding takes a number of elementary steps linear in the length of the input, whatever
  numbers the input contains: no length prefix, integer or nesting depth written in the input drives a loop.
-/
import TB.Spec.CostSpec
import TB.Lemmas.Cost
namespace TB
open TB.Cost

/-- the step-counting decoder computes exactly what the model decoder computes -/
theorem C09_cost_faithful (inp : Bytes) : (decodeC inp).1 = decode inp := by
  obtain ⟨n, h, _⟩ := decodeC_spec inp
  rw [h]

/-- and it never takes more than `2·|inp| + 2` steps (attained by the empty input) -/
theorem C09_decode_cost_linear (inp : Bytes) : (decodeC inp).2 ≤ 2 * inp.length + 2 := by
  obtain ⟨n, h, hn⟩ := decodeC_spec inp
  rw [h]; exact hn

end TB
