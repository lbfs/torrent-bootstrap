/-
  C09 — decoding and loading are total: any bytes give a value or an error (never a panic).
  Termination is Lean's own obligation: every model function is total (structural recursion on the input
  or on fuel ≤ 2·|input| + 2; `pieceCountOk` is one division, no loop driven by a number read from the input).
-/
import TB.Props.C10
import TB.Props.C06
namespace TB

theorem C09_decode_total (inp : Bytes) : decode inp ≠ .panic := by
  exact C08_no_panic inp

/-- the slice of the info dictionary is always in range, and no other step of loading can panic -/
theorem C09_load_total (H : Bytes → Bytes) (inp : Bytes) : load H inp ≠ .panic := by
  rw [load_eq]
  cases hd : decode inp with
  | ok t => exact resOfOption_ne_panic _
  | err => nofun
  | panic => exact absurd hd (C08_no_panic inp)

/-- the piece layout of a loaded torrent never panics either (index out of range, underflow) -/
theorem C09_layout_total (H : Bytes → Bytes) (inp : Bytes) (T : Torrent) (h : load H inp = .ok T) :
    constructPieces T.info.pieceLength T.info.length (T.info.files.map (·.map (·.length))) T.info.pieces ≠ none := by
  obtain ⟨ps, hps, _⟩ := C06_loaded H inp T h
  rw [hps]; exact Option.some_ne_none ps

end TB
