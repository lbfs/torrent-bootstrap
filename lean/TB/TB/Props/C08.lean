/-
  C08 — the decoder accepts exactly canonical bencode and returns the value it denotes, with exact spans.
  Property theorems only; helper lemmas live in TB/Lemmas/Bencode.lean.
-/
import TB.Model.Bencode
import TB.Spec.BencodeSpec
import TB.Lemmas.Bencode
namespace TB

/-- soundness: whatever the decoder accepts is canonical, re-encodes to the input byte for byte, and every
    node's recorded span is exactly the encoding of the value that node denotes (root = whole input) -/
theorem C08_sound (inp : Bytes) (t : Tok) (h : decode inp = .ok t) :
    canon (erase t) = true ∧ encode (erase t) = inp ∧ spansExact inp t = true
      ∧ t.start = 0 ∧ t.cont = inp.length := by
  unfold decode at h
  split at h
  · next t' hd =>
    cases h
    obtain ⟨e1, e2, e3, e4, e5⟩ := decodeAny_sound hd
    rw [List.append_nil] at e1
    exact ⟨e4, e1.symm, e5 inp (At.zero inp), e2, by rw [e3, ← e1, Nat.zero_add]⟩
  all_goals cases h

/-- completeness: the encoding of every canonical value is accepted and decodes to that value -/
theorem C08_complete (v : BVal) (h : canon v = true) :
    ∃ t, decode (encode v) = .ok t ∧ erase t = v := by
  obtain ⟨t, e1, e2⟩ := decodeAny_complete v [] 0 (2 * (encode v).length + 2) h (by omega)
  rw [List.append_nil] at e1
  exact ⟨t, by rw [decode, e1], e2⟩

/-- the decoder accepts a byte string iff it is exactly one canonical bencoded value -/
theorem C08_accepts_iff (inp : Bytes) :
    (∃ t, decode inp = .ok t) ↔ ∃ v, canon v = true ∧ encode v = inp := by
  constructor
  · rintro ⟨t, h⟩
    obtain ⟨h1, h2, _⟩ := C08_sound inp t h
    exact ⟨erase t, h1, h2⟩
  · rintro ⟨v, hc, rfl⟩
    obtain ⟨t, h, _⟩ := C08_complete v hc
    exact ⟨t, h⟩

/-- canonical encoding is injective (so "the value it denotes" is well defined) -/
theorem C08_encode_injective (v w : BVal) (hv : canon v = true) (hw : canon w = true)
    (h : encode v = encode w) : v = w := by
  obtain ⟨t1, d1, e1⟩ := C08_complete v hv
  obtain ⟨t2, d2, e2⟩ := C08_complete w hw
  rw [h, d2, Res.ok.injEq] at d1
  rw [← e1, ← e2, d1]

/-- decoding never panics (no unchecked arithmetic, no out-of-range slice) -/
theorem C08_no_panic (inp : Bytes) : decode inp ≠ .panic := by
  unfold decode
  split
  · nofun
  · nofun
  · nofun
  · next hd => exact absurd hd (decodeAny_no_panic _ inp 0)

-- non-vacuity: a nested canonical value with a dictionary, a negative integer and an empty string
example : canon (.dict [([97], .int (-5)), ([98], .list [.str [], .int 0])]) = true := by decide

end TB
