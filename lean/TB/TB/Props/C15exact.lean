/-
  C15 (exact accounting) — every reported figure is the count of what actually happened.

  `C15_sum` / `C15_run` say the k-th record sums to k+1. This file says which outcomes it counts: the k-th progress
  record is the zero counters bumped by exactly the first k+1 evaluation outcomes (`C15_counters_exact`,
  `C15_run_counters_exact`), so `success` is the number of `.found`, `failed` the number of `.notFound`, `fault` the
  number of `.fault` among them (`C15_tally_counts`). With `C04a_found_verifies` (found ⇒ verifies afterwards) and
  `C02_run_not_failed` (available ⇒ not `.notFound`) the figures are tied to the tree.
-/
import TB.Props.C15
import TB.Lemmas.RunQ
namespace TB
open TB.RB

/-- the outcomes of the evaluations, in order, each piece evaluated in the state the previous ones left -/
def outcomes (H : Bytes → Bytes) : St → List Work → List Solved
  | _, [] => []
  | st, w :: ws => (solvePiece H st w).2 :: outcomes H (solvePiece H st w).1 ws

theorem outcomes_length (H : Bytes → Bytes) (st : St) (ws : List Work) : (outcomes H st ws).length = ws.length := by
  induction ws generalizing st with
  | nil => rfl
  | cons w ws ih => simp only [outcomes, List.length_cons, ih]

/-- the counters after a list of outcomes -/
def tally (c : Counters) (l : List Solved) : Counters := l.foldl Counters.bump c

theorem tally_cons (c : Counters) (r : Solved) (l : List Solved) :
    tally c (r :: l) = tally (c.bump r) l := rfl

/-- EXACT ACCOUNTING: without a panic, the k-th progress record is the start counters bumped by exactly the first k+1
    outcomes — every reported figure is the count of what actually happened -/
theorem C15_counters_exact (H : Bytes → Bytes) (st : St) (ws : List Work) (c : Counters) (acc : List Counters)
    (h : (solveAll H st ws c acc).2.2 = false) :
    (solveAll H st ws c acc).2.1
      = acc ++ (List.range ws.length).map (fun k => tally c ((outcomes H st ws).take (k + 1))) := by
  induction ws generalizing st c acc with
  | nil => simp [solveAll]
  | cons w ws ih =>
    rw [solveAll_cons] at h ⊢
    by_cases hp : (solvePiece H st w).2 = .panic
    · rw [if_pos hp] at h; cases h
    · rw [if_neg hp] at h ⊢
      rw [ih _ _ _ h, List.length_cons, List.range_succ_eq_map, List.append_assoc]
      congr 1
      simp only [List.map_cons, List.map_map, List.singleton_append, outcomes, List.take_succ_cons,
        tally_cons, List.take_zero]
      congr 1

/-- what the tally counts -/
theorem C15_tally_counts (c : Counters) (l : List Solved) :
    (tally c l).success = c.success + l.count .found ∧
    (tally c l).failed = c.failed + l.count .notFound ∧
    (tally c l).fault = c.fault + l.count .fault := by
  induction l generalizing c with
  | nil => simp [tally]
  | cons r l ih =>
    rw [tally_cons]
    obtain ⟨h1, h2, h3⟩ := ih (c.bump r)
    rw [h1, h2, h3]
    cases r <;> simp [Counters.bump] <;> omega

/-- run level: in a run that ends `ok`, the k-th reported record counts exactly the `found` / `notFound` / `fault`
    outcomes of the first k+1 evaluations -/
theorem C15_run_counters_exact (H : Bytes → Bytes) (inp : RunIn) (hok : (run H inp).result = .ok ()) :
    (run H inp).counters
      = (List.range (RunQ.evalOrder (run H inp).work inp.order).length).map (fun k =>
          tally ⟨0, 0, 0⟩ ((outcomes H (runSt3 inp) (RunQ.evalOrder (run H inp).work inp.order)).take (k + 1))) := by
  rcases RunQ.run_eval_or H inp with ⟨hw, h0, _⟩ | ⟨_, _, _, _, hcnt, hres⟩
  · rw [h0, hw, RunQ.evalOrder_nil]; rfl
  · have := C15_counters_exact H _ _ _ _ (RunQ.flag_of_result hres (by rw [hok]; exact fun h => nomatch h))
    rw [List.nil_append] at this
    rw [← this]
    exact hcnt

/-- the last figure of a run that ends `ok`: succeeded / failed / I/O-error are the numbers of `found` / `notFound` /
    `fault` outcomes among ALL evaluations — nothing is counted twice, nothing is left out -/
theorem C15_run_final_figures (H : Bytes → Bytes) (inp : RunIn) (hok : (run H inp).result = .ok ())
    (last : Counters) (hl : (run H inp).counters.getLast? = some last) :
    last.success = (outcomes H (runSt3 inp) (RunQ.evalOrder (run H inp).work inp.order)).count .found ∧
    last.failed = (outcomes H (runSt3 inp) (RunQ.evalOrder (run H inp).work inp.order)).count .notFound ∧
    last.fault = (outcomes H (runSt3 inp) (RunQ.evalOrder (run H inp).work inp.order)).count .fault := by
  rw [C15_run_counters_exact H inp hok] at hl
  generalize RunQ.evalOrder (run H inp).work inp.order = ws at hl ⊢
  cases hn : ws.length with
  | zero => rw [hn] at hl; simp at hl
  | succ n =>
    rw [hn, List.range_succ, List.map_append, List.map_singleton, List.getLast?_append, List.getLast?_singleton] at hl
    simp only [Option.some_or, Option.some.injEq] at hl
    subst hl
    have htake : (outcomes H (runSt3 inp) ws).take (n + 1) = outcomes H (runSt3 inp) ws := by
      apply List.take_of_length_le
      rw [outcomes_length, hn]; exact Nat.le_refl _
    rw [htake]
    have := C15_tally_counts ⟨0, 0, 0⟩ (outcomes H (runSt3 inp) ws)
    simpa using this

end TB
