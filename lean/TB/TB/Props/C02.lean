/-
  C02 — every piece whose data is present on disk is recovered: completeness of the search.
-/
import TB.Spec.ExportSpec
import TB.Lemmas.RunC
namespace TB
open TB.RC
/-- no fault point lies ahead of the current position in the log -/
def NoFutureFaults (st : St) : Prop := ∀ idx ∈ st.faults, idx < st.ops.length

/-- whatever the product search returns is a choice of one preloaded candidate per segment whose
    concatenation hashes to the piece hash -/
theorem C02_search_sound (H : Bytes → Bytes) (hash : Bytes) (loaded : List (List (Option Path × Bytes)))
    (chosen r : List (Option Path × Bytes)) (h : searchProduct H hash loaded chosen = some r) :
    ∃ picks, r = chosen ++ picks ∧ picks.length = loaded.length ∧
      (∀ k (hk : k < picks.length) (hl : k < loaded.length), picks[k] ∈ loaded[k]) ∧
      H (r.flatMap (·.2)) = hash := by
  induction loaded generalizing chosen with
  | nil =>
    simp only [searchProduct] at h
    split at h
    · rename_i hh
      cases h
      exact ⟨[], by simp, rfl, fun k hk => (by cases hk), by simpa using hh⟩
    · cases h
  | cons cands rest ih =>
    simp only [searchProduct] at h
    obtain ⟨c, hc, hfc⟩ := firstM_option_some h
    obtain ⟨picks, hr, hlen, hmem, hh⟩ := ih _ hfc
    refine ⟨c :: picks, by rw [hr]; simp, by simp [hlen], ?_, hh⟩
    intro k hk hl
    cases k with
    | zero => simpa using hc
    | succ k =>
      simp only [List.getElem_cons_succ]
      exact hmem k (by simpa using hk) (by simpa using hl)

/-- the product search is exhaustive: if any choice of one candidate per segment hashes to the piece hash,
    the search succeeds -/
theorem C02_search_complete (H : Bytes → Bytes) (hash : Bytes) (loaded : List (List (Option Path × Bytes)))
    (chosen picks : List (Option Path × Bytes)) (hlen : picks.length = loaded.length)
    (hmem : ∀ k (hk : k < picks.length) (hl : k < loaded.length), picks[k] ∈ loaded[k])
    (hhash : H ((chosen ++ picks).flatMap (·.2)) = hash) :
    (searchProduct H hash loaded chosen).isSome = true := by
  induction loaded generalizing chosen picks with
  | nil =>
    have : picks = [] := List.eq_nil_of_length_eq_zero hlen
    subst this
    simp only [List.append_nil] at hhash
    simp [searchProduct, hhash]
  | cons cands rest ih =>
    cases picks with
    | nil => simp at hlen
    | cons c picks =>
      simp only [searchProduct]
      have hc : c ∈ cands := by
        have := hmem 0 (by simp) (by simp)
        simpa using this
      refine firstM_option_isSome hc ?_
      apply ih (chosen ++ [c]) picks (by simpa using hlen)
      · intro k hk hl
        have := hmem (k + 1) (by simpa using hk) (by simpa using hl)
        simpa using this
      · simpa using hhash

/-- the single-file scan gives up only after every candidate has been read and none hashed to the piece hash -/
theorem C02_single_complete (H : Bytes → Bytes) (hash : Bytes) (seg : WSeg) (st st' : St) (paths : List Path)
    (h : scanSingle H hash seg st paths = (st', .ok none)) :
    ∀ p ∈ paths, ∀ i, st.fs.look p = .file i → H (st.fs.readAt i seg.off seg.len) ≠ hash := by
  exact scanSingle_none h

/-- preloading keeps every distinct byte string the candidates supply (first supplier wins) -/
theorem C02_preload_complete (seg : WSeg) (st st' : St) (paths : List Path)
    (acc r : List (Option Path × Bytes)) (h : preloadSeg seg st paths acc = (st', .ok r)) :
    (∀ x ∈ acc, x ∈ r) ∧
    ∀ p ∈ paths, ∀ i, st.fs.look p = .file i → ∃ x ∈ r, x.2 = st.fs.readAt i seg.off seg.len := by
  obtain ⟨⟨extra, hex, _⟩, hall⟩ := preloadSeg_spec h
  refine ⟨?_, hall⟩
  intro x hx
  rw [hex]
  exact List.mem_append_left _ hx

/-- the candidate index keeps one name of every file of the right length: an admissible candidate order names
    every inode of the candidate map -/
theorem C02_index_keeps_inodes (e : TEntry) (m : List (Path × Nat)) (obs : List Path)
    (h : validSearches e m obs = true) :
    ∀ x ∈ m, ∃ p ∈ obs, ∃ y ∈ m, y.1 = p ∧ y.2 = x.2 := by
  intro x hx
  obtain ⟨p, hp, hy, _⟩ := validSearches_mem h x hx
  exact ⟨p, hp, hy⟩

/-- every regular file below a scan directory whose length is one of the wanted lengths is in the cache
    under that length (the inode recorded with the name is that of the last insertion of this path) -/
theorem C02_scan_registers (fs : Fs) (c : Cache) (dir : Path) (lengths : List Nat) (p : Path) (i : Nat)
    (hmem : (p, i) ∈ fs.files) (hdir : dir.length < p.length ∧ p.take dir.length = dir)
    (hlen : lengths.contains (fs.content i).length = true) :
    ∃ m, cacheGet (addByDirectory fs c dir lengths) (fs.content i).length = some m ∧ ∃ j, (p, j) ∈ m := by
  rw [addByDirectory_eq]
  exact foldl_registers fs dir lengths fs.files c p i hmem hdir hlen

/-- piece level, whatever the fault points: if every candidate is a readable file and some choice of candidates
    (zeros for padding, nothing for empty files) assembles to a buffer with the piece hash, then the piece is
    not reported as failed; an injected I/O error makes the answer `.fault`, never `.notFound` -/
theorem solvePiece_ne_notFound (H : Bytes → Bytes) (st : St) (w : Work)
    (hreadable : ∀ seg ∈ w.segs, ∀ paths, seg.ent.searches = some paths → ∀ p ∈ paths, ∃ i, st.fs.look p = .file i)
    (hnonempty : ∀ seg ∈ w.segs, seg.ent.searches ≠ some [])
    (havail : ∃ parts : List Bytes, parts.length = w.segs.length ∧ H parts.flatten = w.hash ∧
      ∀ (k : Nat) (seg : WSeg) (part : Bytes), w.segs[k]? = some seg → parts[k]? = some part →
        (seg.ent.isPad = true → part = List.replicate seg.len 0) ∧
        (seg.ent.isPad = false → seg.len = 0 → part = []) ∧
        (seg.ent.isPad = false → seg.len ≠ 0 →
          ∃ paths p i, seg.ent.searches = some paths ∧ p ∈ paths ∧ st.fs.look p = .file i
            ∧ part = st.fs.readAt i seg.off seg.len)) :
    (solvePiece H st w).2 ≠ .notFound := by
  obtain ⟨parts, hplen, hphash, hparts⟩ := havail
  -- the one part of a piece with a single segment
  have one : ∀ {seg}, w.segs = [seg] → ∃ part, H part = w.hash ∧
      (seg.ent.isPad = true → part = List.replicate seg.len 0) ∧
      (seg.ent.isPad = false → seg.len = 0 → part = []) ∧
      (seg.ent.isPad = false → seg.len ≠ 0 →
        ∃ paths p i, seg.ent.searches = some paths ∧ p ∈ paths ∧ st.fs.look p = .file i
          ∧ part = st.fs.readAt i seg.off seg.len) := by
    intro seg hseg
    obtain ⟨part, rfl⟩ := List.length_eq_one_iff.1 (show parts.length = 1 by rw [hplen, hseg]; rfl)
    exact ⟨part, by simpa using hphash, hparts 0 seg part (by rw [hseg]; rfl) rfl⟩
  -- `notFound` comes out of four branches of `solvePiece`; each contradicts the available parts
  fun_cases solvePiece H st w
  -- rejected: a non-padding, non-empty segment without a candidate list
  case case1 hrej =>
    exfalso
    obtain ⟨s, hs, hcond⟩ := List.any_eq_true.1 hrej
    obtain ⟨k, hk⟩ := List.getElem?_of_mem hs
    have hklt : k < w.segs.length := (List.getElem?_eq_some_iff.1 hk).1
    have hp : parts[k]? = some (parts[k]'(by omega)) := List.getElem?_eq_getElem _
    simp only [Bool.and_eq_true, Bool.not_eq_true', bne_iff_ne, ne_eq, Option.isNone_iff_eq_none] at hcond
    obtain ⟨paths, _, _, hsome, _⟩ := (hparts k s _ hk hp).2.2 hcond.1.1 hcond.2
    rw [hcond.1.2] at hsome
    cases hsome
  -- a lone padding segment whose zeros do not hash to the piece hash
  case case3 hsegs hpad hh =>
    obtain ⟨part, hH, hpart, _⟩ := one hsegs
    rw [hpart hpad] at hH
    exact absurd (by rw [hH]; exact beq_self_eq_true _) hh
  -- one segment, the scan read every candidate and none matched
  case case6 seg hsegs hpad paths hs _ hscan =>
    exfalso
    have hpad := Bool.eq_false_iff.2 hpad
    obtain ⟨part, hH, _, hzero, hpos⟩ := one hsegs
    have hmem : seg ∈ w.segs := by rw [hsegs]; exact List.mem_singleton_self _
    have hnone := scanSingle_none hscan
    by_cases hl : seg.len = 0
    · cases paths with
      | nil => exact hnonempty seg hmem hs
      | cons p ps =>
        obtain ⟨i, hi⟩ := hreadable seg hmem _ hs p List.mem_cons_self
        have := hnone p List.mem_cons_self i hi
        rw [hl, readAt_zero] at this
        rw [hzero hpad hl] at hH
        exact this hH
    · obtain ⟨paths', p, i, hs', hp, hi, hpp⟩ := hpos hpad hl
      rw [hs] at hs'
      cases hs'
      exact hnone p hp i hi (by rw [← hpp]; exact hH)
  -- several segments, the product search found no combination
  case case10 loaded hsearch _ hpre =>
    exfalso
    obtain ⟨hll, hcand⟩ := (preload_spec hpre).getElem?
    have hpick : ∀ (k : Nat) part cands, parts[k]? = some part → loaded[k]? = some cands →
        ∃ x ∈ cands, x.2 = part := by
      intro k part cands hp hc
      have hklt : k < loaded.length := (List.getElem?_eq_some_iff.1 hc).1
      have hs : w.segs[k]? = some (w.segs[k]'(by omega)) := List.getElem?_eq_getElem _
      have hmem : w.segs[k]'(by omega) ∈ w.segs := List.getElem_mem _
      exact cand_supplies (hcand k _ cands hs hc) (hreadable _ hmem) (hnonempty _ hmem) (hparts k _ part hs hp)
    obtain ⟨picks, hpl, hpm, hpf⟩ := picks_of_cands parts loaded (by omega) hpick
    have := C02_search_complete H w.hash loaded [] picks hpl hpm (by simpa [hpf] using hphash)
    rw [hsearch] at this
    cases this
  -- the writer ran: it never answers `notFound`
  case case5 | case9 => exact writeSegs_ne_notFound _ _ _ _
  all_goals exact Solved.noConfusion

/-- piece level: if every candidate is a readable file, no fault lies ahead, and some choice of candidates
    (zeros for padding, nothing for empty files) assembles to a buffer with the piece hash, then the piece is
    not reported as failed -/
theorem C02_piece (H : Bytes → Bytes) (st : St) (w : Work)
    (hnf : NoFutureFaults st)
    (hreadable : ∀ seg ∈ w.segs, ∀ paths, seg.ent.searches = some paths → ∀ p ∈ paths, ∃ i, st.fs.look p = .file i)
    (hnonempty : ∀ seg ∈ w.segs, seg.ent.searches ≠ some [])
    (havail : ∃ parts : List Bytes, parts.length = w.segs.length ∧ H parts.flatten = w.hash ∧
      ∀ (k : Nat) (seg : WSeg) (part : Bytes), w.segs[k]? = some seg → parts[k]? = some part →
        (seg.ent.isPad = true → part = List.replicate seg.len 0) ∧
        (seg.ent.isPad = false → seg.len = 0 → part = []) ∧
        (seg.ent.isPad = false → seg.len ≠ 0 →
          ∃ paths p i, seg.ent.searches = some paths ∧ p ∈ paths ∧ st.fs.look p = .file i
            ∧ part = st.fs.readAt i seg.off seg.len)) :
    (solvePiece H st w).2 ≠ .notFound := by
  have _ := hnf
  exact solvePiece_ne_notFound H st w hreadable hnonempty havail

end TB
