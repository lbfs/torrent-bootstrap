import TB.Props.C05reads
namespace TB
open TB.RunX

theorem upd_read (L off : Nat) (d c : Bytes) (so sl' : Nat) (h1 : so + sl' ≤ c.length) (h2 : so + sl' ≤ L)
    (h3 : so + sl' ≤ off ∨ off + d.length ≤ so) :
    so + sl' ≤ (upd L off d c).length ∧ ((upd L off d c).drop so).take sl' = (c.drop so).take sl' := by
  constructor
  · unfold upd; rw [wr_length, sl_length]; omega
  · apply List.ext_getElem?
    intro k
    simp only [List.getElem?_take, List.getElem?_drop]
    split
    · rename_i hk
      unfold upd
      rw [wr_get, sl_get]
      have hc : some (c[so + k]?.getD 0) = c[so + k]? := some_getD (by omega)
      by_cases a1 : so + k < off
      · rw [if_pos a1, if_pos (by omega)]; simp [hc]
      · rw [if_neg a1, if_neg (by omega), if_pos (by omega)]; exact hc
    · rfl

theorem look_file_crit {fs fs' : Fs} (hwf : FsWF fs) {t : Path} {L off : Nat} {d : Bytes} {i : Nat}
    (hok : CritOk fs t) (S : CritSpec fs t L off d fs' i) {p : Path} {i0 : Nat} (hl : fs.look p = .file i0) :
    fs'.look p = .file i0 := by
  obtain ⟨l1, l2, l3⟩ := RunF.look_file hl
  have hmem := RunF.inoOf_mem l3
  apply RunF.look_file_of
  · intro q hq
    by_cases hqt : q = t
    · subst hqt
      have hd : fs.isDir q = true := hwf.2.2.2 p i0 hmem q hq
      have := hok.2
      rw [hd] at this; simp at this
    · rw [S.ino_other q hqt]
      exact l1 q hq
  · rw [S.dir p, l2, Bool.false_or]
    cases hc : (mk t).contains p with
    | false => rfl
    | true =>
      have hm : p ∈ mk t := by simpa using hc
      have := hok.1 p hm
      rw [l3] at this; cases this
  · by_cases hpt : p = t
    · subst hpt
      rw [S.ino_t]
      rcases S.origin with ⟨h1, _⟩ | ⟨h1, _⟩
      · rw [l3] at h1; exact h1.symm
      · rw [l3] at h1; cases h1
    · rw [S.ino_other p hpt]; exact l3

theorem segBytesIn_crit (fs fs' : Fs) (hwf : FsWF fs) (sec : Sec) (s : WSeg) (b : Bytes)
    (hc : fs.crit sec.t sec.L sec.off sec.d = some fs')
    (hsp : ¬ s.ent.isPad →
      (s.ent.fullTarget = sec.t → s.off + s.len ≤ sec.L ∧ (s.off + s.len ≤ sec.off ∨ sec.off + sec.d.length ≤ s.off)) ∧
      (s.ent.fullTarget ≠ sec.t → ∀ i j, fs.inoOf s.ent.fullTarget = some i → fs.inoOf sec.t = some j → i ≠ j))
    (hs : segBytesIn fs s = some b) : segBytesIn fs' s = some b := by
  unfold segBytesIn at hs ⊢
  by_cases hpad : s.ent.isPad
  · simp only [hpad, if_true] at hs ⊢; exact hs
  · simp only [hpad] at hs ⊢
    obtain ⟨hsame, hdiff⟩ := hsp hpad
    rcases crit_spec hwf sec.t sec.L sec.off sec.d with ⟨_, hn⟩ | ⟨hok, fs'', i, he, S⟩
    · rw [hn] at hc; cases hc
    · rw [he] at hc; cases hc
      cases hl : fs.look s.ent.fullTarget with
      | file i0 =>
        simp only [hl] at hs
        have hl' := look_file_crit hwf hok S hl
        simp only [hl']
        have l3 := RunF.look_file_inoOf hl
        by_cases hin : s.off + s.len ≤ (fs.content i0).length
        · simp only [if_pos hin] at hs
          by_cases hpt : s.ent.fullTarget = sec.t
          · obtain ⟨r1, r2⟩ := hsame hpt
            have hi : i = i0 := by
              rcases S.origin with ⟨h1, _⟩ | ⟨h1, _⟩
              · rw [← hpt, l3] at h1; exact (Option.some.inj h1).symm
              · rw [← hpt, l3] at h1; cases h1
            subst hi
            have hcont : fs'.content i = upd sec.L sec.off sec.d (fs.content i) := by
              rcases S.origin with ⟨_, h2⟩ | ⟨h1, _⟩
              · exact h2
              · rw [← hpt, l3] at h1; cases h1
            obtain ⟨u1, u2⟩ := upd_read sec.L sec.off sec.d (fs.content i) s.off s.len hin r1 r2
            unfold Fs.readAt at hs ⊢
            rw [hcont, if_pos u1, u2]; exact hs
          · have hne : i0 ≠ i := by
              rcases S.origin with ⟨h1, _⟩ | ⟨_, h2, _⟩
              · exact hdiff hpt i0 i l3 h1
              · have := RunF.inoOf_lt hwf l3
                omega
            have hcont : fs'.content i0 = fs.content i0 := S.content_other i0 hne
            unfold Fs.readAt at hs ⊢
            rw [hcont, if_pos hin]; exact hs
        · simp only [if_neg hin] at hs
          exact absurd hs (by simp)
      | notFound => simp only [hl] at hs; exact absurd hs (by simp)
      | dir => simp only [hl] at hs; exact absurd hs (by simp)
      | notDir => simp only [hl] at hs; exact absurd hs (by simp)

/-- R6: A WHOLE CRITICAL SECTION of another piece (`create_dir_all`, open-or-create, `set_len L`, positional write:
    `Fs.crit`) preserves the verification of a piece it spares: the segments of the piece on the section's own image lie
    inside the declared length and outside the written range, and its segments on other images are not hard links of
    the section's image. Unlike R5 this includes the path level: the directories and the file the section creates do
    not change where the piece's paths lead (`look_file_crit`). Nothing is assumed about the section's own range
    (a write reaching beyond `L` still spares the segments it does not touch). -/
theorem C05_section_preserves_verified (H : Bytes → Bytes) (fs fs' : Fs) (hwf : FsWF fs) (sec : Sec) (w : Work)
    (hc : fs.crit sec.t sec.L sec.off sec.d = some fs')
    (hsp : ∀ s ∈ w.segs, ¬ s.ent.isPad →
      (s.ent.fullTarget = sec.t → s.off + s.len ≤ sec.L ∧ (s.off + s.len ≤ sec.off ∨ sec.off + sec.d.length ≤ s.off)) ∧
      (s.ent.fullTarget ≠ sec.t → ∀ i j, fs.inoOf s.ent.fullTarget = some i → fs.inoOf sec.t = some j → i ≠ j))
    (h : VerE H fs w) : VerE H fs' w := by
  obtain ⟨parts, hm, hh⟩ := h
  exact ⟨parts, mapM_some_congr (fun s hs b => segBytesIn_crit fs fs' hwf sec s b hc (hsp s hs)) hm, hh⟩

/-! #### non-vacuity of R6: the image `d/x` holds `[7, 8]`, the piece on its first byte verifies; the section of the
    other piece (same image, declared length 2, second byte) runs and the piece still verifies -/
namespace C05r
open TB.C05w
theorem wfR : FsWF fsR := by decide +kernel

example : ∃ fs', fsR.crit tx 2 1 [9] = some fs' ∧ VerE id fs' wR := by
  cases hc : fsR.crit tx 2 1 [9] with
  | none => exact absurd hc (by decide)
  | some fs' =>
    refine ⟨fs', rfl, C05_section_preserves_verified id fsR fs' wfR ⟨tx, 2, 1, [9]⟩ wR hc ?_ verR⟩
    intro s hs _
    have : s = ⟨1, 0, ex⟩ := by simpa [wR] using hs
    subst this
    exact ⟨fun _ => ⟨by decide, Or.inl (by decide)⟩, fun h => absurd rfl h⟩
end C05r

end TB
