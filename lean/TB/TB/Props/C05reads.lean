/-
  C05 (reads against writes) — what a worker READS while another worker writes.

  TB.Props.C05writes and TB.Props.C05ops cover the writers against one another. A worker also reads: the candidate
  files (never written by the tool) and the export image of its own piece (`VerE`, the "already there" test), while
  other workers run `set_len` / positional writes on export images. This file states, at the level of the single
  byte operation (`ByteOp`, the unit of TB.Props.C05ops), that such a read returns the same bytes whether it happens
  before or after the other worker's operation:

    R1  `C05_read_other_inode`     an operation on a different inode (a candidate, another image) is invisible;
    R2  `C05_read_disjoint_write`  a positional write to a disjoint range of the SAME inode is invisible to a read
                                   that lies inside the file;
    R3  `C05_read_setLen`          `set_len n` is invisible to a read that lies inside the file and inside `n`
                                   (the layout puts every segment inside the declared length);
    R4  `C05_read_byteop_commutes` the three together: a read inside the file and inside the declared length, of a
                                   range the other piece does not write, commutes with any operation of that piece's
                                   critical section.

    R5  `C05_segment_stable`, `C05_verified_stable`  lifted to the "already there" test: a piece that VERIFIES in
                                   the export tree (`VerE`) still verifies after any single byte operation of another
                                   piece's section that spares its segments (`ByteOp.Spares`); a write that does not
                                   spare them breaks the verification (last example).

  The side conditions are exact: the examples after each theorem show the read changing when one is dropped.
-/
import TB.Props.C05writes
namespace TB
open TB.RunX

theorem readAt_get (fs : Fs) (i off len k : Nat) :
    (fs.readAt i off len)[k]? = if k < len then (fs.content i)[off + k]? else none := by
  simp only [Fs.readAt, List.getElem?_take, List.getElem?_drop]

/-- R1: a read of inode `i` does not see `set_len` / a positional write on another inode `j` -/
theorem C05_read_other_inode (fs : Fs) (a : ByteOp) (i j : Nat) (hij : i ≠ j) (off len : Nat) :
    (a.app fs j).readAt i off len = fs.readAt i off len := by
  cases a <;> simp only [ByteOp.app, setLen_eq, writeAt_eq, Fs.readAt, content_setData, if_neg hij]

/-- R2: a read that lies inside the file does not see a positional write to a disjoint range of the same inode -/
theorem C05_read_disjoint_write (fs : Fs) (i o off len : Nat) (d : Bytes)
    (hin : off + len ≤ (fs.content i).length)
    (h : off + len ≤ o ∨ o + d.length ≤ off) :
    (fs.writeAt i o d).readAt i off len = fs.readAt i off len := by
  apply List.ext_getElem?
  intro k
  simp only [readAt_get, writeAt_eq, content_setData, if_true, wr_get]
  by_cases hk : k < len
  · simp only [if_pos hk]
    rcases h with h | h
    · have h1 : off + k < o := by omega
      have h2 : off + k < (fs.content i).length := by omega
      simp only [if_pos h1, List.getElem?_eq_getElem h2, Option.getD_some]
    · have h1 : ¬ off + k < o := by omega
      have h2 : ¬ off + k < o + d.length := by omega
      simp only [if_neg h1, if_neg h2]
  · simp only [if_neg hk]

/-- without "inside the file": a read past the end sees the zero-fill of a later write -/
example : ((wr 2 [1] []).drop 0).take 1 = [0] ∧ (([] : Bytes).drop 0).take 1 = [] := by decide

/-- without "disjoint": the read sees the write -/
example : ((wr 0 [1] [7]).drop 0).take 1 = [1] := by decide

/-- R3: a read that lies inside the file and inside `n` does not see `set_len n` -/
theorem C05_read_setLen (fs : Fs) (i n off len : Nat)
    (hin : off + len ≤ (fs.content i).length) (hn : off + len ≤ n) :
    (fs.setLen i n).readAt i off len = fs.readAt i off len := by
  apply List.ext_getElem?
  intro k
  simp only [readAt_get, setLen_eq, content_setData, if_true, sl_get]
  by_cases hk : k < len
  · have h1 : off + k < n := by omega
    have h2 : off + k < (fs.content i).length := by omega
    simp only [if_pos hk, if_pos h1, List.getElem?_eq_getElem h2, Option.getD_some]
  · simp only [if_neg hk]

/-- without "inside `n`": the read is cut -/
example : ((sl 1 [7, 8]).drop 0).take 2 = [7] := by decide

/-- the operation `a` of another piece's critical section spares the range `[off, off+len)` of an image of declared
    length `L`: it is the section's `set_len L`, or its write of a range disjoint from `[off, off+len)` (the layout
    gives two pieces disjoint ranges of an image: `C05_compat_of_layout`) -/
def ByteOp.Spares (a : ByteOp) (L off len : Nat) : Prop :=
  match a with
  | .setLen n => n = L
  | .writeAt o d => off + len ≤ o ∨ o + d.length ≤ off

/-- R4: a read of `[off, off+len)` of inode `i`, inside the file and inside the declared length `L`, commutes with
    every byte operation of another piece's critical section on ANY inode `j`, provided that, when it acts on the
    same inode, it spares the range. -/
theorem C05_read_byteop_commutes (fs : Fs) (a : ByteOp) (i j L off len : Nat)
    (hin : off + len ≤ (fs.content i).length) (hL : off + len ≤ L)
    (ha : i = j → a.Spares L off len) :
    (a.app fs j).readAt i off len = fs.readAt i off len := by
  by_cases hij : i = j
  · subst hij
    cases a with
    | setLen n =>
      have e : n = L := ha rfl
      subst e
      exact C05_read_setLen fs i n off len hin hL
    | writeAt o d => exact C05_read_disjoint_write fs i o off len d hin (ha rfl)
  · exact C05_read_other_inode fs a i j hij off len

/-- non-vacuity: a two-byte image, a read of its first byte, a write of its second -/
example : (ByteOp.app (.writeAt 1 [9]) (⟨[], [], [(0, [7, 8])], 1⟩ : Fs) 0).readAt 0 0 1 = [7] := by decide

theorem ByteOp.look_app (a : ByteOp) (fs : Fs) (j : Nat) (p : Path) : (a.app fs j).look p = fs.look p := by
  cases a <;> rfl

/-- the read of a full-length segment stays full-length: the operation of the other piece does not cut the file
    below the end of the segment -/
theorem ByteOp.length_app (a : ByteOp) (fs : Fs) (i j L e : Nat) (hin : e ≤ (fs.content i).length) (hL : e ≤ L)
    (ha : i = j → ∀ n, a = .setLen n → n = L) :
    e ≤ ((a.app fs j).content i).length := by
  by_cases hij : i = j
  · subst hij
    cases a with
    | setLen n =>
      have e' : n = L := ha rfl n rfl
      subst e'
      simp only [ByteOp.app, setLen_eq, content_setData, if_true, sl_length]; exact hL
    | writeAt o d =>
      simp only [ByteOp.app, writeAt_eq, content_setData, if_true, wr_length]; omega
  · cases a <;> simp only [ByteOp.app, setLen_eq, writeAt_eq, content_setData, if_neg hij] <;> exact hin

/-- R5a: the bytes of a segment found (full-length) at its export image are found again, the same, after any byte
    operation of another piece's critical section — on whichever inode `j` it acts: `set_len` to the declared
    length `L` of that image, or a write to a range disjoint from the segment. -/
theorem C05_segment_stable (fs : Fs) (a : ByteOp) (j L : Nat) (s : WSeg) (b : Bytes)
    (hs : segBytesIn fs s = some b) (hL : s.off + s.len ≤ L)
    (ha : fs.look s.ent.fullTarget = .file j → a.Spares L s.off s.len) :
    segBytesIn (a.app fs j) s = some b := by
  unfold segBytesIn at hs ⊢
  by_cases hp : s.ent.isPad
  · simpa only [if_pos hp] using hs
  · simp only [if_neg hp, ByteOp.look_app] at hs ⊢
    cases hl : fs.look s.ent.fullTarget with
    | file i =>
      simp only [hl] at hs ⊢
      by_cases hin : s.off + s.len ≤ (fs.content i).length
      · simp only [if_pos hin, Option.some.injEq] at hs
        have ha' : i = j → a.Spares L s.off s.len := fun e => ha (by rw [hl, e])
        have hlen : s.off + s.len ≤ ((a.app fs j).content i).length :=
          ByteOp.length_app a fs i j L _ hin hL (fun e n en => by
            have := ha' e
            subst en
            exact this)
        rw [if_pos hlen, C05_read_byteop_commutes fs a i j L s.off s.len hin hL ha', hs]
      · simp only [if_neg hin] at hs
        exact absurd hs (by simp)
    | notFound => simp only [hl] at hs; exact absurd hs (by simp)
    | dir => simp only [hl] at hs; exact absurd hs (by simp)
    | notDir => simp only [hl] at hs; exact absurd hs (by simp)

/-- R5: A PIECE THAT VERIFIES IN THE EXPORT TREE STILL VERIFIES after any single byte operation of another piece's
    critical section (acting on inode `j`, an image of declared length `L`), provided the operation spares the
    segments of the piece that lie on that image. So the "already there" test of one worker gives the same answer
    `true` whether it runs before or after the other worker's operation. -/
theorem C05_verified_stable (H : Bytes → Bytes) (fs : Fs) (a : ByteOp) (j L : Nat) (w : Work)
    (hL : ∀ s ∈ w.segs, fs.look s.ent.fullTarget = .file j → s.off + s.len ≤ L ∧ a.Spares L s.off s.len)
    (h : VerE H fs w) : VerE H (a.app fs j) w := by
  obtain ⟨parts, hm, hh⟩ := h
  refine ⟨parts, mapM_some_congr (fun s hs b hb => ?_) hm, hh⟩
  by_cases hj : fs.look s.ent.fullTarget = .file j
  · exact C05_segment_stable fs a j L s b hb (hL s hs hj).1 (fun _ => (hL s hs hj).2)
  · -- the operation acts on another inode: take the segment's own end as "declared length"
    exact C05_segment_stable fs a j (s.off + s.len) s b hb (Nat.le_refl _) (fun e => absurd e hj)

/-- R5, any number of operations: a piece that verifies still verifies after ANY SEQUENCE of byte operations of other
    pieces (each `(a, j, L)`: operation `a` on inode `j`, an image of declared length `L`) that spare its segments —
    whatever the order in which the other workers' `set_len`s and writes reach the file system. The hypothesis is
    stated once, against the initial tree: byte operations do not change which inode a path leads to. -/
theorem C05_verified_stable_ops (H : Bytes → Bytes) (w : Work) (ops : List (ByteOp × Nat × Nat)) (fs : Fs)
    (hL : ∀ o ∈ ops, ∀ s ∈ w.segs, fs.look s.ent.fullTarget = .file o.2.1 →
      s.off + s.len ≤ o.2.2 ∧ o.1.Spares o.2.2 s.off s.len)
    (h : VerE H fs w) : VerE H (ops.foldl (fun f o => o.1.app f o.2.1) fs) w := by
  induction ops generalizing fs with
  | nil => exact h
  | cons o rest ih =>
    rw [List.foldl_cons]
    apply ih
    · intro o' ho' s hs hl
      rw [ByteOp.look_app] at hl
      exact hL o' (List.mem_cons_of_mem _ ho') s hs hl
    · exact C05_verified_stable H fs o.1 o.2.1 o.2.2 w (hL o List.mem_cons_self) h

/-! #### non-vacuity of R5: the image `d/x` holds `[7, 8]`; the piece on its first byte verifies (with `H = id`);
    the other piece's write of the second byte spares it -/
namespace C05r
open TB.C05w
def fsR : Fs := ⟨[(tx, 0)], [[[100]]], [(0, [7, 8])], 1⟩
def wR : Work := ⟨[⟨1, 0, ex⟩], [7]⟩
example : segBytesIn fsR ⟨1, 0, ex⟩ = some [7] := by decide
theorem verR : VerE id fsR wR := ⟨[[7]], by decide, by decide⟩
example : VerE id ((ByteOp.writeAt 1 [9]).app fsR 0) wR :=
  C05_verified_stable id fsR (.writeAt 1 [9]) 0 2 wR
    (by intro s hs _
        have : s = ⟨1, 0, ex⟩ := by simpa [wR] using hs
        subst this
        exact ⟨by decide, Or.inl (by decide)⟩) verR
/-- and a write that does NOT spare the segment breaks the verification: the hypothesis is needed -/
example : ¬ VerE id ((ByteOp.writeAt 0 [9]).app fsR 0) wR := by
  rintro ⟨parts, hm, hh⟩
  have : parts = [[9]] := by
    have e : wR.segs.mapM (segBytesIn ((ByteOp.writeAt 0 [9]).app fsR 0)) = some [[9]] := by decide
    rw [e] at hm; exact (Option.some.inj hm).symm
  subst this
  exact absurd hh (by decide)
end C05r

end TB
