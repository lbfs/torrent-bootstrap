/-
  C06 (layout facts of a run) — the side conditions `LayoutOk` of the preservation theorems (`C04_history`,
  `C04_run_preserved`, `C01_bytes`) DERIVED from the torrents themselves.

  `TB.Props.C04h` / `TB.Props.C04hist` assume of the run's table and work list
    * `SegsInRange`     every segment lies inside its file,
    * `RangesDisjoint`  segments of different work items never overlap inside one export image, and different
                        segments of one work item lie in different images,
    * `LayoutOk.same`   non-padding table entries with the same export image declare the same length,
    * `HInjOn`          collision-freedom of the hash on the buffers of the run's pieces.
  Here the first three are theorems about `table0 inp` / `work0 inp` (the table and work list of the run with input
  `inp`, before candidate lists are filled in — functions of the export directory and the torrents only):

    L1 `C06_segs_in_range`    from: every torrent of the input is `Loadable`;
    L2 `C06_ranges_disjoint`  from: `Loadable` and `DistinctPaths`;
    L3 `C06_same_length`      from: `DistinctPaths` alone;
    L4 `C06_layout_ok`        `Loadable → DistinctPaths → HInjOn → LayoutOk`;
    L5 `C04_history_loaded`   `C04_history` with `Loadable ∧ DistinctPaths ∧ HInjOn` in place of `LayoutOk`.

  `HInjOn` stays assumed: it is the standing assumption on SHA-1.

  `DistinctPaths` cannot be dropped from L2 and L3: a loadable torrent may list one path twice (finding D6), and then
  both conclusions fail — `C06_ranges_disjoint_needs_distinct_paths`, `C06_same_length_needs_distinct_paths` below,
  on a checked one-torrent world. It is not needed for L1.

  That DISTINCT torrents of the run never share an image is not assumed: the run sorts the torrents by info-hash and
  drops repeats (`dedup_by`), so the torrents the table is built from have pairwise distinct info-hashes
  (`C06_hashes_distinct`), hence distinct export roots (`C12_disjoint`, `C07_hex_injective`).

  Helper lemmas: TB/Lemmas/RunT.lean.
-/
import TB.Spec.ExportSpec
import TB.Props.C06
import TB.Props.C10
import TB.Props.C12
import TB.Props.C16run
import TB.Props.C04h
import TB.Props.C04hist
import TB.Lemmas.RunT
namespace TB

/-- within every torrent of the list, two different NON-PADDING files have different paths.

    * Paths are compared as lists of components (`FileRec.path`); a path that is a proper prefix of another
      (`a` and `a/b`) is a different path and gives a different export image — allowed.
    * Padding files (`isPaddingPath`: `.pad/<digits>`) are exempt: the run never reads or writes them, `RangesDisjoint`
      and `LayoutOk.same` exempt them too, and real torrents repeat their names (`.pad/<length>`).
    * Nothing is required ACROSS torrents: see `C06_hashes_distinct`.
    * An empty file listed twice under one name is excluded like any other repeated path.
    * A single-file torrent (`files = none`) satisfies the condition vacuously. -/
def DistinctPaths (ts : List Torrent) : Prop :=
  ∀ t ∈ ts, ∀ fs, t.info.files = some fs → ∀ (i j : Nat) (f g : FileRec), fs[i]? = some f → fs[j]? = some g → i ≠ j →
    isPaddingPath f.path = false → isPaddingPath g.path = false → f.path ≠ g.path

/-- the plain condition "no path is listed twice" (padding files included) implies `DistinctPaths` -/
theorem DistinctPaths.of_nodup {ts : List Torrent}
    (h : ∀ t ∈ ts, ∀ fs, t.info.files = some fs → (fs.map (·.path)).Nodup) : DistinctPaths ts := by
  intro t ht fs hfs i j f g hi hj hij _ _ he
  have hn := h t ht fs hfs
  unfold List.Nodup at hn
  rw [List.pairwise_map, List.pairwise_iff_getElem] at hn
  obtain ⟨li, rfl⟩ := List.getElem?_eq_some_iff.1 hi
  obtain ⟨lj, rfl⟩ := List.getElem?_eq_some_iff.1 hj
  rcases Nat.lt_or_gt_of_ne hij with hlt | hlt
  · exact hn i j li lj hlt he
  · exact hn j i lj li hlt he.symm

theorem DistinctPaths.sub {ts us : List Torrent} (h : DistinctPaths ts) (hsub : ∀ t ∈ us, t ∈ ts) :
    DistinctPaths us := fun t ht => h t (hsub t ht)

/-- `DistinctPaths` in a form `decide` can check on a concrete torrent list (bounded indices) -/
theorem DistinctPaths.of_check {ts : List Torrent}
    (h : ∀ t ∈ ts, ∀ fs, t.info.files = some fs →
      ∀ i ∈ List.range fs.length, ∀ j ∈ List.range fs.length, i ≠ j →
        isPaddingPath (fs[i]?.getD default).path = false → isPaddingPath (fs[j]?.getD default).path = false →
        (fs[i]?.getD default).path ≠ (fs[j]?.getD default).path) : DistinctPaths ts := by
  intro t ht fs hfs i j f g hi hj hij n1 n2
  obtain ⟨ri, rfl⟩ := List.getElem?_getD_range hi
  obtain ⟨rj, rfl⟩ := List.getElem?_getD_range hj
  exact h t ht fs hfs i ri j rj hij n1 n2

/-- the torrents a run builds its table from (sorted by info-hash, repeats dropped) have pairwise distinct
    info-hashes — whatever the input list was. This is the cross-torrent half of "distinct files have distinct
    images"; it is a fact of the run, not a hypothesis. -/
theorem C06_hashes_distinct (ts : List Torrent) :
    (dedupTorrents (sortTorrents ts)).Pairwise (fun a b => a.infoHash ≠ b.infoHash) :=
  RunT.hashDistinct_dedup_sort ts

private theorem mem_run_torrents {ts : List Torrent} {t : Torrent} (h : t ∈ dedupTorrents (sortTorrents ts)) :
    t ∈ ts := (RB.mem_sortTorrents _ _).1 (RB.dedupTorrents_mem _ t h)

/-- L1: every segment of every work item lies inside its file.
    Assumed: every torrent of the input is a record the loader produces (`Loadable`: piece count = ⌈total/piece
    length⌉, non-empty file list — what makes the cursor loop of the layout the exact partition, `C06_partition_*`).
    No hypothesis on paths: a segment's entry is found by (info-hash, file index), and the torrents of the table have
    distinct info-hashes. -/
theorem C06_segs_in_range (H : Bytes → Bytes) (inp : RunIn) (hload : ∀ t ∈ inp.torrents, Loadable H t) :
    ∀ w ∈ work0 inp, SegsInRange w := by
  unfold work0
  cases h : convertPiecesToWork (table0 inp) (dedupTorrents (sortTorrents inp.torrents)) with
  | none => intro w hw; cases hw
  | some ws =>
    exact RunT.convert_range H (C06_hashes_distinct inp.torrents) (fun _ ht => ht)
      (fun t ht => hload t (mem_run_torrents ht)) h

/-- L2: ranges of different work items never overlap inside one export image, and different segments of one work
    item lie in different images (padding segments exempt, as in the definition of `RangesDisjoint`).
    Assumed: `Loadable` (as in L1) and `DistinctPaths` (without it both clauses fail:
    `C06_ranges_disjoint_needs_distinct_paths`).

    Why it holds. Different torrents: different info-hashes, different export roots. One torrent: two non-padding
    entries with the same image are entries of the same file (`DistinctPaths`; the image is
    `<root>/<name>/<path…>` and determines the path). Segments of one piece have strictly increasing file indices, so
    they are in different files (second clause) — this covers zero-length segments of empty files too, and a path
    that is a prefix of another path is a different path. Segments of different pieces in the same file: a
    positive-length segment lies inside its piece's window `[i·L, (i+1)·L)` of the torrent's byte space, and the
    windows are disjoint; a zero-length segment belongs to an empty file, where every segment is `[0,0)`. -/
theorem C06_ranges_disjoint (H : Bytes → Bytes) (inp : RunIn) (hload : ∀ t ∈ inp.torrents, Loadable H t)
    (hpaths : DistinctPaths inp.torrents) : RangesDisjoint (work0 inp) := by
  unfold work0
  cases h : convertPiecesToWork (table0 inp) (dedupTorrents (sortTorrents inp.torrents)) with
  | none => exact ⟨fun a b w v ha => by simp at ha, fun w hw => by cases hw⟩
  | some ws =>
    have hd := C06_hashes_distinct inp.torrents
    have hl : ∀ t ∈ dedupTorrents (sortTorrents inp.torrents), Loadable H t := fun t ht => hload t (mem_run_torrents ht)
    have hp : ∀ t ∈ dedupTorrents (sortTorrents inp.torrents), RunT.PathsDistinct t :=
      fun t ht => hpaths t (mem_run_torrents ht)
    exact RunT.rangesDisjoint_of (RunT.convert_apart H hd hd (fun _ ht => ht) hl hp h)
      (RunT.convert_images H hd (fun _ ht => ht) hl hp h)

/-- L3: non-padding table entries with the same export image declare the same length (they are the same file of
    the same torrent).
    Assumed: `DistinctPaths` only (no loadability). Without it the statement is false:
    `C06_same_length_needs_distinct_paths`. -/
theorem C06_same_length (inp : RunIn) (hpaths : DistinctPaths inp.torrents) :
    ∀ e ∈ table0 inp, ∀ f ∈ table0 inp, e.isPad = false → f.isPad = false →
      e.fullTarget = f.fullTarget → e.fileLength = f.fileLength :=
  RunT.table_same (C06_hashes_distinct inp.torrents) (fun t ht => hpaths t (mem_run_torrents ht))

/-- L4: the tree-independent side conditions of the preservation theorems hold for every run on loadable torrents
    without repeated paths, given collision-freedom of the hash on the run's pieces (`HInjOn`, the assumption on
    SHA-1, which stays a hypothesis). -/
theorem C06_layout_ok (H : Bytes → Bytes) (inp : RunIn) (hload : ∀ t ∈ inp.torrents, Loadable H t)
    (hpaths : DistinctPaths inp.torrents) (hinj : HInjOn H (work0 inp)) : LayoutOk H inp :=
  ⟨C06_segs_in_range H inp hload, C06_same_length inp hpaths, C06_ranges_disjoint H inp hload hpaths, hinj⟩

/-- L5: `C04_history` with the layout facts derived. A piece `w` that verifies in the initial tree verifies in the
    tree left by any history of runs, provided for every step: either `w` is one of the step's work items, and then
    the step's torrents are loadable, list no non-padding path twice, and the hash is collision-free on the step's
    pieces; or `w` is foreign to the step's table. `hwf`, `hna` as in `C04_history`. The three conditions are only
    required of the steps that have `w` among their work items. -/
theorem C04_history_loaded (H : Bytes → Bytes) (fs0 : Fs) (steps : List HStep) (w : Work)
    (hwf : FsWF fs0)
    (hna : ∀ s ∈ steps, NoAlias fs0 (table0 s.inp))
    (hdich : ∀ s ∈ steps,
      (IsWorkOf w s.inp ∧ (∀ t ∈ s.inp.torrents, Loadable H t) ∧ DistinctPaths s.inp.torrents
        ∧ HInjOn H (work0 s.inp))
      ∨ Foreign w (table0 s.inp))
    (hver : VerE H fs0 w) :
    VerE H (histTree H fs0 steps) w := by
  refine C04_history H fs0 steps w hwf hna ?_ hver
  intro s hs
  rcases hdich s hs with ⟨hw, hl, hp, hi⟩ | hf
  · exact .inl ⟨hw, C06_layout_ok H s.inp hl hp hi⟩
  · exact .inr hf

/-- the same for one run: between any two instants of a run the set of verifying pieces only grows -/
theorem C04_run_monotone_loaded (H : Bytes → Bytes) (inp : RunIn) (w : Work) (hwf : FsWF inp.fs)
    (hna : NoAlias inp.fs (table0 inp))
    (hdich : (IsWorkOf w inp ∧ (∀ t ∈ inp.torrents, Loadable H t) ∧ DistinctPaths inp.torrents
        ∧ HInjOn H (work0 inp)) ∨ Foreign w (table0 inp))
    (n₁ n₂ : Nat) (hle : n₁ ≤ n₂)
    (hver : VerE H (replay inp.fs ((run H inp).ops.take n₁)) w) :
    VerE H (replay inp.fs ((run H inp).ops.take n₂)) w := by
  refine C04_run_monotone H inp w hwf hna ?_ n₁ n₂ hle hver
  rcases hdich with ⟨hw, hl, hp, hi⟩ | hf
  · exact .inl ⟨hw, C06_layout_ok H inp hl hp hi⟩
  · exact .inr hf

/-! ### non-vacuity: a loadable multi-file torrent that meets `DistinctPaths`

  Five files, piece length 4, two pieces (`pieces` = 40 bytes):
    `a` (3 bytes), `a/b` (EMPTY, and its path extends the path of the first file), `.pad/1` (1 byte, padding),
    `c` (2 bytes), `.pad/1` (1 byte, padding — the same name again).
  `DistinctPaths` holds: the repeated name is a padding name, and `a` ≠ `a/b`. `H = id`, so the info-hash is the
  encoding of the info value and `HInjOn id` holds trivially. `Loadable` is proved through `C10_iff` (`Loadable.of_info`) by exhibiting the
  bencoded value; the document is `encode root`. -/

namespace C06Ex

def pad1 : List Bytes := [sPad, [49]]
def fileA : BVal := .dict [(kLength, .int 3), (kPath, .list [.str [97]])]
def fileAB : BVal := .dict [(kLength, .int 0), (kPath, .list [.str [97], .str [98]])]
def fileP : BVal := .dict [(kLength, .int 1), (kPath, .list [.str sPad, .str [49]])]
def fileC : BVal := .dict [(kLength, .int 2), (kPath, .list [.str [99]])]
def infod : List (Bytes × BVal) :=
  [(kFiles, .list [fileA, fileAB, fileP, fileC, fileP]), (kName, .str [110]), (kPieceLength, .int 4),
   (kPieces, .str (List.replicate 40 7))]
def root : BVal := .dict [(kInfo, .dict infod)]
def info : Info :=
  ⟨[110], none, some [⟨3, [[97]]⟩, ⟨0, [[97], [98]]⟩, ⟨1, pad1⟩, ⟨2, [[99]]⟩, ⟨1, pad1⟩], 4,
    [List.replicate 20 7, List.replicate 20 7]⟩
def tor : Torrent := ⟨info, encode (.dict infod)⟩

def inp : RunIn :=
  { fs := default, torrents := [tor], scan := [], exportDir := ⟨true, [[101]]⟩, resize := false,
    searchObs := [], order := [], faults := [] }

/-- the two checks of `Loadable.of_info` and the work list, in one evaluation (the kernel's work on each is in large
    part the same: decoding the info dictionary, the info-hash) -/
theorem evaluated :
    (canon root = true ∧ specInfo infod = some info) ∧
    (work0 inp).map (fun w => w.segs.map (fun s => (s.ent.fileIndex, s.off, s.len, s.ent.isPad)))
      = [[(0, 0, 3, false), (1, 0, 0, false), (2, 0, 1, true)], [(3, 0, 2, false), (4, 0, 1, true)]] := by
  decide +kernel

/-- the document `encode root` loads as `tor` -/
theorem loadable : Loadable id tor := Loadable.of_info evaluated.1.1 evaluated.1.2

theorem loadable_all : ∀ t ∈ inp.torrents, Loadable id t := List.forall_mem_singleton.2 loadable

theorem distinct : DistinctPaths inp.torrents := by
  apply DistinctPaths.of_check
  intro t ht fs hfs
  cases List.mem_singleton.1 ht
  cases hfs
  decide +kernel

/-- the plain "no path twice" condition does NOT hold here (the padding name repeats): the exemption matters -/
example : ¬ ((info.files.getD []).map (·.path)).Nodup := by decide +kernel

theorem hinj : HInjOn id (work0 inp) := HInjOn_id _

/-- the hypotheses of `C06_layout_ok` are jointly satisfiable, on a run whose work list is not empty: two pieces;
    the first has a segment of `a`, a zero-length segment of the empty file `a/b`, and a padding segment -/
example : LayoutOk id inp := C06_layout_ok id inp loadable_all distinct hinj
example : (work0 inp).map (fun w => w.segs.map (fun s => (s.ent.fileIndex, s.off, s.len, s.ent.isPad)))
    = [[(0, 0, 3, false), (1, 0, 0, false), (2, 0, 1, true)], [(3, 0, 2, false), (4, 0, 1, true)]] :=
  evaluated.2
example : (table0 inp).map (fun e => (e.fileIndex, e.fileLength, e.isPad))
    = [(0, 3, false), (1, 0, false), (2, 1, true), (3, 2, false), (4, 1, true)] := by
  decide +kernel

end C06Ex

/-! ### `DistinctPaths` cannot be dropped (finding D6)

  One loadable torrent that lists the path `x` twice, with lengths 1 and 2; piece length 4, one piece: its two
  segments `x[0,1)` and `x[0,2)` have the same export image. `H = id`. `SegsInRange` holds (L1 needs no hypothesis
  on paths); the second clause of `RangesDisjoint` and `LayoutOk.same` fail. -/

namespace C06Cex

def fileA : BVal := .dict [(kLength, .int 1), (kPath, .list [.str [120]])]
def fileB : BVal := .dict [(kLength, .int 2), (kPath, .list [.str [120]])]
def infod : List (Bytes × BVal) :=
  [(kFiles, .list [fileA, fileB]), (kName, .str [110]), (kPieceLength, .int 4), (kPieces, .str (List.replicate 20 7))]
def root : BVal := .dict [(kInfo, .dict infod)]
def info : Info := ⟨[110], none, some [⟨1, [[120]]⟩, ⟨2, [[120]]⟩], 4, [List.replicate 20 7]⟩
def tor : Torrent := ⟨info, encode (.dict infod)⟩

def inp : RunIn :=
  { fs := default, torrents := [tor], scan := [], exportDir := ⟨true, [[101]]⟩, resize := false,
    searchObs := [], order := [], faults := [] }

/-- the two checks of `Loadable.of_info`; the two segments of the only piece are non-padding and have the same image;
    two non-padding entries have the same image and different declared lengths -/
theorem evaluated :
    (canon root = true ∧ specInfo infod = some info) ∧
    (∃ w ∈ work0 inp, ∃ s ∈ w.segs[0]?, ∃ u ∈ w.segs[1]?,
      s.ent.isPad = false ∧ u.ent.isPad = false ∧ s.ent.fullTarget = u.ent.fullTarget) ∧
    (∃ e ∈ table0 inp, ∃ f ∈ table0 inp,
      e.isPad = false ∧ f.isPad = false ∧ e.fullTarget = f.fullTarget ∧ e.fileLength ≠ f.fileLength) := by
  decide +kernel

theorem loadable : Loadable id tor := Loadable.of_info evaluated.1.1 evaluated.1.2

theorem loadable_all : ∀ t ∈ inp.torrents, Loadable id t := List.forall_mem_singleton.2 loadable

/-- the layout itself is fine: every segment lies inside its file -/
example : ∀ w ∈ work0 inp, SegsInRange w := C06_segs_in_range id inp loadable_all

theorem not_distinct : ¬ DistinctPaths inp.torrents := by
  intro h
  exact h tor (by simp [inp]) _ rfl 0 1 ⟨1, [[120]]⟩ ⟨2, [[120]]⟩ rfl rfl (by decide) (by decide) (by decide) rfl

end C06Cex

/-- L2 without `DistinctPaths` is false: in the world `C06Cex` (one loadable torrent listing `x` twice) the two
    segments of the only piece have the same export image -/
theorem C06_ranges_disjoint_needs_distinct_paths :
    ¬ (∀ (H : Bytes → Bytes) (inp : RunIn), (∀ t ∈ inp.torrents, Loadable H t) → RangesDisjoint (work0 inp)) := by
  intro h
  obtain ⟨w, hw, s, hs, u, hu, n1, n2, he⟩ := C06Cex.evaluated.2.1
  exact (h id C06Cex.inp C06Cex.loadable_all).2 w hw 0 1 s u hs hu (by decide) n1 n2 he

/-- L3 without `DistinctPaths` is false: in the same world the two entries of `x` declare lengths 1 and 2 -/
theorem C06_same_length_needs_distinct_paths :
    ¬ (∀ (H : Bytes → Bytes) (inp : RunIn), (∀ t ∈ inp.torrents, Loadable H t) →
        ∀ e ∈ table0 inp, ∀ f ∈ table0 inp, e.isPad = false → f.isPad = false →
          e.fullTarget = f.fullTarget → e.fileLength = f.fileLength) := by
  intro h
  obtain ⟨e, he, f, hf, n1, n2, ht, hl⟩ := C06Cex.evaluated.2.2
  exact hl (h id C06Cex.inp C06Cex.loadable_all e he f hf n1 n2 ht)

end TB
