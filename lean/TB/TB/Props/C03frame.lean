/-
  C03 (tree level) — everything that is not an export image of a loaded torrent keeps its exact content, size and
  existence, at every instant of a run; nothing new appears outside the export subtrees.
-/
import TB.Spec.ExportSpec
import TB.Props.C11
import TB.Props.C12
import TB.Props.C04a
import TB.Props.C01bytes
import TB.Lemmas.RunM
namespace TB

/-- at every prefix of the log: a file that is not the export image of a non-padding table entry keeps its inode
    and its content, and every directory stays a directory -/
theorem C03_frame (H : Bytes → Bytes) (inp : RunIn) (hwf : FsWF inp.fs)
    (hna : NoAlias inp.fs (run H inp).table) (n : Nat) (p : Path) (i : Nat)
    (hp : inp.fs.inoOf p = some i)
    (hout : ∀ e ∈ (run H inp).table, e.isPad = false → e.fullTarget ≠ p) :
    (replay inp.fs ((run H inp).ops.take n)).inoOf p = some i ∧
    (replay inp.fs ((run H inp).ops.take n)).content i = inp.fs.content i := by
  obtain ⟨s, c⟩ := RunK.frame hwf hna _ (fun o h => RunJ.run_opFact H inp o (List.mem_of_mem_take h))
  exact ⟨s.keep p i hp, c p i hp hout⟩

theorem C03_frame_dirs (H : Bytes → Bytes) (inp : RunIn) (n : Nat) (d : Path) (hd : inp.fs.isDir d = true) :
    (replay inp.fs ((run H inp).ops.take n)).isDir d = true := by
  exact RunM.replay_isDir _ _ hd

/-- nothing new appears elsewhere: a name bound at some instant of the run was bound before or is the export image
    of a non-padding table entry; a directory existing at some instant existed before or is a prefix of such an
    image -/
theorem C03_nothing_new (H : Bytes → Bytes) (inp : RunIn) (n : Nat) :
    (∀ q j, (replay inp.fs ((run H inp).ops.take n)).inoOf q = some j →
      inp.fs.inoOf q = some j ∨ ∃ e ∈ (run H inp).table, e.isPad = false ∧ e.fullTarget = q) ∧
    (∀ d, (replay inp.fs ((run H inp).ops.take n)).isDir d = true →
      inp.fs.isDir d = true ∨ ∃ e ∈ (run H inp).table, e.isPad = false ∧ Path.isPrefixOf d e.fullTarget.dropLast) := by
  have h := RunM.nothing_new H inp ((run H inp).ops.take n) (fun _ h => List.mem_of_mem_take h)
  exact ⟨h.f, h.d⟩

end TB
