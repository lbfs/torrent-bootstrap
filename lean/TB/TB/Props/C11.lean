/-
  C11 — interrupting a run at any instant leaves a sound export tree.
  A crash is a prefix of the operation log (the last operation possibly cut short); the tree at that instant is
  the replay of that prefix. Soundness of every operation (C01, C03, C12) is per operation, hence holds for
  every prefix; `C11_replay` ties the log to the tree.
-/
import TB.Spec.ExportSpec
import TB.Lemmas.RunD
import TB.Props.C01
import TB.Props.C03
namespace TB
open TB.RD
/-- effect of one logged operation on the tree -/
def applyOp (fs : Fs) (o : Op) : Fs :=
  match o.kind with
  | .mkdirs => if o.ok then (fs.mkdirs o.path).1 else fs
  | .openc => if o.ok then (fs.openCreate o.path).1 else fs
  | .setlen n => if o.ok then (match fs.look o.path with | .file i => fs.setLen i n | _ => fs) else fs
  | .write off d => if o.ok then (match fs.look o.path with | .file i => fs.writeAt i off d | _ => fs) else fs
  | _ => fs

def replay (fs : Fs) (ops : List Op) : Fs := ops.foldl applyOp fs

theorem replay_append (fs : Fs) (a b : List Op) : replay fs (a ++ b) = replay (replay fs a) b :=
  List.foldl_append

theorem replay_ind {Q : Fs → Prop} {F : Op → Prop} (hstep : ∀ fs o, F o → Q fs → Q (applyOp fs o)) (ops : List Op) :
    ∀ fs, (∀ o ∈ ops, F o) → Q fs → Q (replay fs ops) := by
  induction ops with
  | nil => intro fs _ h; exact h
  | cons o ops ih =>
    intro fs hall h
    exact ih _ (fun o' ho' => hall o' (List.mem_cons_of_mem _ ho')) (hstep fs o (hall o List.mem_cons_self) h)

/-- `replay` is the `replayD` of TB.Lemmas.Run, under which the stage lemmas (`Trace`, `RD.Reach`) are stated -/
theorem replay_eq_replayD : replay = replayD := by
  have e : applyOp = applyOpD := by
    funext fs o
    unfold applyOp applyOpD
    cases o.kind <;> rfl
  funext fs ops
  unfold replay replayD
  rw [e]

/-- the tree after a run is the replay of its operation log on the initial tree -/
theorem C11_replay (H : Bytes → Bytes) (inp : RunIn) : (run H inp).fs = replay inp.fs (run H inp).ops := by
  rw [replay_eq_replayD]
  exact run_replayD H inp

/-- non-mutating operations and failed injected operations do not change the tree -/
theorem C11_nonmutating_noop (fs : Fs) (o : Op) (h : o.kind.mutating = false) : applyOp fs o = fs := by
  unfold applyOp
  cases hk : o.kind <;> simp_all [OpKind.mutating]

/-- every prefix of a run's log consists of confined operations and sound writes only, so the tree at any
    interruption point is the initial tree changed by sound operations alone -/
theorem C11_prefix_sound (H : Bytes → Bytes) (inp : RunIn) (n : Nat) :
    ∀ o ∈ (run H inp).ops.take n,
      (∀ off data, o.kind = .write off data → ∃ w ∈ (run H inp).work, WriteSound H w o) ∧
      (o.kind.mutating = true ∨ o.kind = .openrw →
        ∃ t ∈ inp.torrents,
          if o.kind = .mkdirs then Path.isPrefixOf (inp.exportDir.path ++ [hex t.infoHash, sData]) o.path
          else Path.isProperPrefixOf (inp.exportDir.path ++ [hex t.infoHash, sData]) o.path) := by
  intro o ho
  have hm := List.mem_of_mem_take ho
  exact ⟨C01_run H inp o hm, C03_confined H inp o hm⟩

/-- a write cut after `j` bytes stores a prefix of sound data at the same offset: positional writes compose -/
theorem C11_write_split (fs : Fs) (i off : Nat) (d : Bytes) (j : Nat) (h : off ≤ (fs.content i).length) :
    ((fs.writeAt i off (d.take j)).writeAt i (off + min j d.length) (d.drop j)).content i = (fs.writeAt i off d).content i := by
  rw [Fs.content_writeAt, Fs.content_writeAt, Fs.content_writeAt, ← List.length_take, RunX.wr_append,
    List.take_append_drop]

end TB
