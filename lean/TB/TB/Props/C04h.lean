/-
  C04 (clause a at run level, and histories) — a piece that verifies in the export tree before a run still
  verifies after it, whatever the run does (faults anywhere, any evaluation order, any candidate order); hence
  over any sequence of runs the set of verifying pieces only grows.
-/
import TB.Spec.ExportSpec
import TB.Props.C01
import TB.Props.C11
import TB.Props.C12
import TB.Props.C04a
import TB.Props.C01bytes
import TB.Lemmas.RunK
import TB.Lemmas.RunKCex
namespace TB

/-- collision-freedom of the hash on the buffers of the run's pieces: two byte strings with the hash of one and
    the same piece are equal (the standing assumption on SHA-1, stated only for the piece hashes of this run) -/
def HInjOn (H : Bytes → Bytes) (work : List Work) : Prop :=
  ∀ w ∈ work, ∀ b b', H b = w.hash → H b' = w.hash → b = b'

/-- with `H = id` a hash has one preimage -/
theorem HInjOn_id (work : List Work) : HInjOn id work :=
  fun w _ b b' h1 h2 => (show b = w.hash from h1).trans (show b' = w.hash from h2).symm

/-- ranges of different work items never overlap inside one export image, and different segments of one work
    item lie in different images (facts of the layout, C06, for torrents whose files have distinct paths) -/
def RangesDisjoint (work : List Work) : Prop :=
  (∀ (a b : Nat) (w v : Work), work[a]? = some w → work[b]? = some v → a ≠ b →
    ∀ s ∈ w.segs, ∀ t ∈ v.segs, s.ent.isPad = false → t.ent.isPad = false → s.ent.fullTarget = t.ent.fullTarget →
      s.off + s.len ≤ t.off ∨ t.off + t.len ≤ s.off) ∧
  (∀ w ∈ work, ∀ (a b : Nat) (s t : WSeg), w.segs[a]? = some s → w.segs[b]? = some t → a ≠ b →
    s.ent.isPad = false → t.ent.isPad = false → s.ent.fullTarget ≠ t.ent.fullTarget)

/-- clause a: a work item of the run that verifies in the initial tree verifies in the final tree — and in the
    tree at every interruption point (every prefix of the log).

    `hsame` (non-padding table entries with the same export image declare the same length; the same hypothesis as in
    `C01_bytes`) is there because the statement is false without it, even for the final tree; the world is the checked example `TB.Lemmas.RunKCex` (`H = id`), see
    `C04_run_preserved_needs_hsame` below. One torrent lists the path `x` twice (finding D6): with length 2 and with
    length 0, followed by a file `y` of length 1; piece length 2. Piece 0 is `x[0,2)` and verifies in the initial
    tree. Piece 1 consists of a zero-length segment of the second `x` and of `y[0,1)`; it is found among the
    candidates, and writing its zero-length segment performs `set_len 0` on the image of `x`. Piece 0 does not
    verify any more (nor is it found again). `FsWF`, `NoAlias`, `SegsInRange`, `RangesDisjoint` (a zero-length range
    overlaps nothing) and `HInjOn` hold in that world. With `hsame`, a `set_len` on the image of a segment uses
    that segment's declared file length, which contains the segment (`SegsInRange`).

    Proof: along the replay, names keep their inodes, directories stay directories (so no proper prefix of an
    existing image can be created as a regular file) and export images share no inode (`RunK.SInv`); the byte
    window of every segment of `w` keeps its initial content (`RunK.Win`): a `set_len` does not cut into it, a write of
    another piece is disjoint from it (`RangesDisjoint`, first clause), and a write of `w` itself is the write of this
    very segment (second clause) cut from a buffer that, by `HInjOn`, is the concatenation of the parts read from
    the initial tree — it stores the bytes that are already there. -/
theorem C04_run_preserved (H : Bytes → Bytes) (inp : RunIn) (hwf : FsWF inp.fs)
    (hna : NoAlias inp.fs (run H inp).table)
    (hrange : ∀ w ∈ (run H inp).work, SegsInRange w)
    (hsame : ∀ e ∈ (run H inp).table, ∀ f ∈ (run H inp).table, e.isPad = false → f.isPad = false →
      e.fullTarget = f.fullTarget → e.fileLength = f.fileLength)
    (hdisj : RangesDisjoint (run H inp).work)
    (hinj : HInjOn H (run H inp).work)
    (w : Work) (hw : w ∈ (run H inp).work) (hver : VerE H inp.fs w) (n : Nat) :
    VerE H (replay inp.fs ((run H inp).ops.take n)) w :=
  RunK.preserved hwf hna hsame hdisj hinj hw (hrange w hw) (RunK.run_work_ent H inp w hw) hver _
    (fun o h => RunJ.run_opFact H inp o (List.mem_of_mem_take h))

/-- `C04_run_preserved` without `hsame` is refuted by the world of `TB.Lemmas.RunKCex` -/
theorem C04_run_preserved_needs_hsame :
    ¬ (∀ (H : Bytes → Bytes) (inp : RunIn), FsWF inp.fs → NoAlias inp.fs (run H inp).table →
        (∀ w ∈ (run H inp).work, SegsInRange w) → RangesDisjoint (run H inp).work → HInjOn H (run H inp).work →
        ∀ w ∈ (run H inp).work, VerE H inp.fs w →
          ∀ n, VerE H (replay inp.fs ((run H inp).ops.take n)) w) := by
  intro h
  have := h id RunK.Cex.inp RunK.Cex.wf RunK.Cex.noAlias RunK.Cex.segsInRange RunK.Cex.disj RunK.Cex.hinj
    RunK.Cex.w0 RunK.Cex.w0_mem RunK.Cex.w0_ver (run id RunK.Cex.inp).ops.length
  rw [List.take_length, ← C11_replay] at this
  exact RunK.Cex.w0_not_ver this

/-- pieces of torrents that are not loaded in this run (their images are not images of the run's table, and share
    no inode with them) are left exactly as they were.
    (Only the first conjunct of `hforeign` is used: a proper prefix of an existing image is a directory of the
    well-formed initial tree, stays one, and so is never created as a regular file.) -/
theorem C04_run_foreign_preserved (H : Bytes → Bytes) (inp : RunIn) (hwf : FsWF inp.fs)
    (hna : NoAlias inp.fs (run H inp).table) (w : Work)
    (hforeign : ∀ s ∈ w.segs, s.ent.isPad = false → ∀ e ∈ (run H inp).table, e.isPad = false →
      e.fullTarget ≠ s.ent.fullTarget ∧ ¬ Path.isPrefixOf s.ent.fullTarget e.fullTarget)
    (hver : VerE H inp.fs w) (n : Nat) :
    VerE H (replay inp.fs ((run H inp).ops.take n)) w :=
  RunK.foreign_preserved hwf hna (fun s hs hp e he hpe => (hforeign s hs hp e he hpe).1) hver _
    (fun o h => RunJ.run_opFact H inp o (List.mem_of_mem_take h))

end TB
