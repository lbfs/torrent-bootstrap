/-
  C17 (order of evaluation) — when no candidate list reaches ANOTHER entry's export image, the order in which the
  pieces are evaluated does not matter.

  In the model the evaluation order is a parameter (`inp.order`; `RunQ.evalOrder work order` is the order actually
  used, a permutation of the work list: `C02_run_eval`). The real tool's order depends on hash-map iteration and
  thread interleaving, so final trees of different real runs may be compared only when the order provably does not
  matter. The rule used for that — "no torrent file's candidate list reaches another entry's export image" — is
  stated here (`NoCross`) and proved to be sufficient (`C17_order_independent`); `C17_cross_candidate_order_dependent`
  shows the phenomenon it excludes.

    Z4  `C17_cross_candidate_order_dependent`   a world WITH a cross-candidate where two orders give different trees
        and counters; `C17_cross_world_not_noCross`, `C17_order_independent_needs_noCross`.
    Z0  `NoCross` (`NoCross_of_names`: with `NoAlias` the name clause suffices).
    Z1  `C17_solvePiece_reads` (a piece reads only the ranges of its candidates), `C17_solvePiece_writes` (it writes
        only its own images inside its own ranges), `C17_solvePiece_obsEq` (it respects `ObsEq`),
        `C17_solvePiece_frame` (the evaluation of one piece leaves the reads of another as they were).
    Z2  `C17_two_pieces_commute`; `C17_own_image_short_cex` / `C17_two_pieces_commute_needs_ownLen` (why `OwnLen` is
        assumed: `set_len` of the other piece extends a short own image), `C17_nested_images_cex` (why "no I/O
        error" is assumed).
    Z3  `C17_order_independent` (any two orders of a run), `C17_own_length_of_run` (`OwnLen` holds in every run) and
        `C17_order_independent'` (Z3 without it), `C17_order_independent_observed` (in terms of result and counters),
        `C17_run_answers`, the non-vacuity example.

  Definitions made in TB.Lemmas.RunZ (namespace TB.RunZ): `pMatch` / `MRes` / `afterMatch` (the matcher of
  `solvePiece` as a pure function of the bytes behind the names), `ReadAgree`, `FilesOk`, `OwnLen`, `PC`, `IsSecOf`, `evalAll`,
  `countersOf`; the invariant `Good` of the observable part of a tree and the static facts `Stat`.

  `HInjOn` is NOT needed anywhere in this file: without cross-candidates a piece reads the same bytes in both orders,
  so its matched buffer is the same because the matcher is deterministic, not because the hash is collision-free.
-/
import TB.Lemmas.RunZ
import TB.Props.C05writes
import TB.Props.C02chain
import TB.Lemmas.RunQCex
namespace TB
open TB.RunX TB.RunZ TB.RB

/-! ### Z4 — the phenomenon: a cross-candidate makes the result depend on the order -/

namespace C17w

def ihA : Bytes := [0xAA]
def ihB : Bytes := [0xBB]
def na : Bytes := [97]
def nb : Bytes := [98]
def eDir : Path := [[101]]
def sDir : Path := [[115]]
def rootA : Path := eDir ++ [hex ihA, sData]
def rootB : Path := eDir ++ [hex ihB, sData]
/-- the export image of torrent A's file -/
def imgA : Path := rootA ++ [na]
/-- the export image of torrent B's file -/
def imgB : Path := rootB ++ [nb]
/-- a file below the scan directory -/
def src : Path := sDir ++ [[48]]

/-- torrent A: one file `a` of length 1, its piece is `[1]` (`H = id`) -/
def torA : Torrent := ⟨⟨na, some 1, none, 1, [[1]]⟩, ihA⟩
/-- torrent B: one file `b` of length 1, its piece is `[2]` -/
def torB : Torrent := ⟨⟨nb, some 1, none, 1, [[2]]⟩, ihB⟩

/-- the image of A exists, has the right length and holds `[2]` — the bytes B's piece needs; the scan directory
    holds `[1]` — the bytes A's piece needs; the image of B does not exist -/
def fs0 : Fs :=
  { files := [(imgA, 0), (src, 1)],
    dirs := [eDir, sDir, eDir ++ [hex ihA], rootA],
    data := [(0, [2]), (1, [1])],
    next := 2 }

def inp (order : List (List (Nat × Nat × Nat) × Bytes)) : RunIn :=
  { fs := fs0, torrents := [torA, torB], scan := [⟨true, sDir⟩], exportDir := ⟨true, eDir⟩, resize := false,
    searchObs := [], order := order, faults := [] }

/-- the observed order "A's piece, then B's piece" (the default order is the reverse of the work list: B, then A) -/
def ordAB : List (List (Nat × Nat × Nat) × Bytes) := [([(0, 0, 1)], [1]), ([(1, 0, 1)], [2])]

def eA : TEntry := ⟨0, ihA, 0, 1, imgA, [na], false, some [imgA, src]⟩
/-- the candidate list of B's file reaches the image of A: a cross-candidate -/
def eB : TEntry := ⟨1, ihB, 0, 1, imgB, [nb], false, some [imgA, src]⟩
def wA : Work := ⟨[⟨1, 0, eA⟩], [1]⟩
def wB : Work := ⟨[⟨1, 0, eB⟩], [2]⟩

/-- the run in the default order (B's piece, then A's), evaluated once -/
theorem runBA :
    (run id (inp [])).table = [eA, eB] ∧ (run id (inp [])).work = [wA, wB] ∧
    RunQ.evalOrder (run id (inp [])).work (inp []).order = [wB, wA] ∧
    (run id (inp [])).resolutionOk = true ∧ (run id (inp [])).result = .ok () ∧
    (run id (inp [])).counters = [⟨1, 0, 0⟩, ⟨2, 0, 0⟩] ∧
    (run id (inp [])).fs.look imgB = .file 2 ∧ (run id (inp [])).fs.content 2 = [2] := by decide +kernel

/-- the run in the order A's piece, then B's, evaluated once -/
theorem runAB :
    RunQ.evalOrder (run id (inp ordAB)).work (inp ordAB).order = [wA, wB] ∧
    (run id (inp ordAB)).resolutionOk = true ∧ (run id (inp ordAB)).result = .ok () ∧
    (run id (inp ordAB)).counters = [⟨1, 0, 0⟩, ⟨1, 1, 0⟩] ∧
    (run id (inp ordAB)).fs.look imgB = .notFound := by decide +kernel

theorem run_table : (run id (inp [])).table = [eA, eB] := runBA.1
theorem run_work : (run id (inp [])).work = [wA, wB] := runBA.2.1
theorem ord_BA : RunQ.evalOrder (run id (inp [])).work (inp []).order = [wB, wA] := runBA.2.2.1
theorem ord_AB : RunQ.evalOrder (run id (inp ordAB)).work (inp ordAB).order = [wA, wB] := runAB.1

end C17w

/-- Z4. THE PHENOMENON THE RULE EXISTS FOR. Two single-file torrents A and B (`H = id`); the export image of A exists
    with the right length and holds the bytes of B's piece (so it is a candidate for B's file: a CROSS-candidate),
    the bytes of A's piece lie in the scan directory. No fault points, both observed orders admissible
    (`resolutionOk`), the two inputs differ in `order` only.
    * B first (the default order): B's piece is matched from the image of A and written; then A's piece is matched
      from the scan directory and overwrites the image of A. Both pieces are recovered.
    * A first: A's piece overwrites the image of A — the only source of B's bytes; B's piece is not found, and the
      image of B is never created.
    The final counters and the final trees differ. -/
theorem C17_cross_candidate_order_dependent :
    (C17w.inp C17w.ordAB) = { C17w.inp [] with order := C17w.ordAB } ∧
    (run id (C17w.inp [])).resolutionOk = true ∧ (run id (C17w.inp C17w.ordAB)).resolutionOk = true ∧
    (run id (C17w.inp [])).result = .ok () ∧ (run id (C17w.inp C17w.ordAB)).result = .ok () ∧
    (run id (C17w.inp [])).counters.getLast? = some ⟨2, 0, 0⟩ ∧
    (run id (C17w.inp C17w.ordAB)).counters.getLast? = some ⟨1, 1, 0⟩ ∧
    (∃ i, (run id (C17w.inp [])).fs.look C17w.imgB = .file i ∧ (run id (C17w.inp [])).fs.content i = [2]) ∧
    (run id (C17w.inp C17w.ordAB)).fs.look C17w.imgB = .notFound ∧
    ¬ ObsEq (run id (C17w.inp [])).fs (run id (C17w.inp C17w.ordAB)).fs := by
  obtain ⟨_, _, _, r1, s1, c1, l1, d1⟩ := C17w.runBA
  obtain ⟨_, r2, s2, c2, l2⟩ := C17w.runAB
  refine ⟨rfl, r1, r2, s1, s2, by rw [c1]; rfl, by rw [c2]; rfl, ⟨2, l1, d1⟩, l2, fun h => ?_⟩
  obtain ⟨j, hj, _⟩ := C05_obsEq_look_file h l1
  rw [l2] at hj
  cases hj

/-- Z0. NO CROSS-CANDIDATES. For every work item and every non-padding segment with a candidate list, every
    candidate `p` is either the segment's OWN export image, or a name that is no export image of the table and (in
    `fs`) shares no inode with the export image of a non-padding table entry. Candidates are thus read-only sources
    for the whole run, except each segment's own image.

    (Under `NoAlias fs table` the inode clause follows from the name clause for non-padding entries:
    `NoCross_of_names`. The theorems below use only: "own image, or no image of a NON-PADDING entry" — images of
    padding entries are never written.) -/
def NoCross (fs : Fs) (table : List TEntry) (work : List Work) : Prop :=
  ∀ w ∈ work, ∀ s ∈ w.segs, s.ent.isPad = false → ∀ paths, s.ent.searches = some paths → ∀ p ∈ paths,
    p = s.ent.fullTarget ∨
    ((∀ e ∈ table, p ≠ e.fullTarget) ∧
     (∀ e ∈ table, e.isPad = false → ∀ i, fs.inoOf p = some i → fs.inoOf e.fullTarget ≠ some i))

theorem NoCross_of_names (fs : Fs) (table : List TEntry) (work : List Work) (hna : NoAlias fs table)
    (h : ∀ w ∈ work, ∀ s ∈ w.segs, s.ent.isPad = false → ∀ paths, s.ent.searches = some paths → ∀ p ∈ paths,
      p = s.ent.fullTarget ∨ ∀ e ∈ table, p ≠ e.fullTarget) :
    NoCross fs table work := by
  intro w hw s hs sp paths hps p hp
  rcases h w hw s hs sp paths hps p hp with h1 | h1
  · exact Or.inl h1
  · exact Or.inr ⟨h1, fun e he ep i hi hj => h1 e he (hna e he ep p i hj hi)⟩

theorem NoCross.mono {fs : Fs} {table : List TEntry} {work work' : List Work} (h : NoCross fs table work)
    (hsub : ∀ w ∈ work', w ∈ work) : NoCross fs table work' :=
  fun w hw => h w (hsub w hw)

/-- the world of Z4 violates `NoCross` (and nothing else that `C17_order_independent'` assumes:
    `C17_order_independent_needs_noCross`) -/
theorem C17_cross_world_not_noCross :
    ¬ NoCross (C17w.inp []).fs (run id (C17w.inp [])).table (run id (C17w.inp [])).work := by
  rw [C17w.run_table, C17w.run_work]
  intro h
  rcases h C17w.wB (by simp) ⟨1, 0, C17w.eB⟩ (by simp [C17w.wB]) rfl [C17w.imgA, C17w.src] rfl C17w.imgA (by simp)
    with h1 | h1
  · revert h1; decide +kernel
  · exact h1.1 C17w.eA (by simp) rfl

/-- the static facts the lemmas of `TB.RunZ` use -/
theorem stat_of {fs : Fs} {table : List TEntry} {work : List Work}
    (hent : ∀ w ∈ work, ∀ s ∈ w.segs, s.ent ∈ table) (hrange : ∀ w ∈ work, SegsInRange w)
    (hsame : ∀ e ∈ table, ∀ f ∈ table, e.isPad = false → f.isPad = false →
      e.fullTarget = f.fullTarget → e.fileLength = f.fileLength)
    (hcross : NoCross fs table work) : Stat table work :=
  ⟨hent, hrange, hsame, fun w hw s hs sp paths hps p hp =>
    (hcross w hw s hs sp paths hps p hp).imp id (fun h e he _ => h.1 e he)⟩

/-- Z1 (reads). A piece evaluated without fault points, its candidates being regular files, READS ONLY THE RANGES
    `[seg.off, seg.off + seg.len)` OF ITS CANDIDATES: `solvePiece` is the pure matcher `pMatch` applied to the bytes
    behind the names (`(view fs).F`), followed — on a hit — by the writer (`afterMatch`), from a state `st1` whose tree
    is still `st.fs`; and `pMatch` gives the same decision (panic / not found / hit with the same sources and the same
    buffer) for two trees that agree on those ranges (`ReadAgree`). Nothing else is assumed about the two trees. -/
theorem C17_solvePiece_reads (H : Bytes → Bytes) (st st' : St) (w : Work)
    (hf : st.faults = []) (hf' : st'.faults = []) (hfiles : FilesOk st.fs w) (hfiles' : FilesOk st'.fs w)
    (hagree : ReadAgree (view st.fs).F (view st'.fs).F w) :
    ∃ m st1 st1', st1.fs = st.fs ∧ st1.faults = [] ∧ st1'.fs = st'.fs ∧ st1'.faults = [] ∧
      solvePiece H st w = afterMatch st1 m ∧ solvePiece H st' w = afterMatch st1' m := by
  obtain ⟨st1, e1, f1, h1⟩ := solvePiece_pure H st w hf hfiles
  obtain ⟨st1', e1', f1', h1'⟩ := solvePiece_pure H st' w hf' hfiles'
  rw [← pMatch_congr H hagree] at h1'
  exact ⟨_, st1, st1', e1, f1, e1', f1', h1, h1'⟩

/-- in particular the answers `notFound` and `panic` do not depend on anything but those ranges -/
theorem C17_solvePiece_reads_answer (H : Bytes → Bytes) (st st' : St) (w : Work)
    (hf : st.faults = []) (hf' : st'.faults = []) (hfiles : FilesOk st.fs w) (hfiles' : FilesOk st'.fs w)
    (hagree : ReadAgree (view st.fs).F (view st'.fs).F w) :
    ((solvePiece H st w).2 = .notFound ↔ (solvePiece H st' w).2 = .notFound) ∧
    ((solvePiece H st w).2 = .panic ↔ (solvePiece H st' w).2 = .panic) := by
  obtain ⟨m, st1, st1', _, _, _, _, h1, h1'⟩ := C17_solvePiece_reads H st st' w hf hf' hfiles hfiles' hagree
  rw [h1, h1']
  cases m with
  | panic => simp [afterMatch]
  | notFound => simp [afterMatch]
  | hit pairs buf =>
    simp only [afterMatch]
    have a := writeSegs_ne_notFound st1 pairs buf 0
    have a' := writeSegs_ne_notFound st1' pairs buf 0
    have b := writeSegs_found_or_fault st1 pairs buf 0
    have b' := writeSegs_found_or_fault st1' pairs buf 0
    refine ⟨⟨fun h => absurd h a, fun h => absurd h a'⟩, ⟨fun h => ?_, fun h => ?_⟩⟩
    · rcases b with b | b <;> rw [b] at h <;> cases h
    · rcases b' with b' | b' <;> rw [b'] at h <;> cases h

/-- Z1 (writes). A piece evaluated without fault points that answers `found` WRITES ONLY ITS OWN IMAGES, INSIDE ITS OWN
    SEGMENT RANGES: the final tree is the result of a sequence of critical sections (`Fs.crits`: `create_dir_all`,
    create-open, `set_len` to the declared length, positional write), each of which belongs to a non-padding segment
    of `w` — its target is that segment's export image, its length the declared file length, its offset the segment's
    offset, its data no longer than the segment. (For the inode-level frame — every other file keeps its content
    and every other name its binding, whatever the answer — see `C04a_frame`.) -/
theorem C17_solvePiece_writes (H : Bytes → Bytes) (st : St) (w : Work) (hf : st.faults = [])
    (hfiles : FilesOk st.fs w) (hfound : (solvePiece H st w).2 = .found) :
    ∃ secs, st.fs.crits secs = some (solvePiece H st w).1.fs ∧ ∀ a ∈ secs, IsSecOf w a := by
  obtain ⟨st1, e1, f1, h1⟩ := solvePiece_pure H st w hf hfiles
  rw [h1] at hfound ⊢
  cases hm : pMatch H (view st.fs).F w with
  | panic => rw [hm] at hfound; simp [afterMatch] at hfound
  | notFound => rw [hm] at hfound; simp [afterMatch] at hfound
  | hit pairs buf =>
    rw [hm] at hfound
    simp only [afterMatch] at hfound ⊢
    obtain ⟨c, _, _⟩ := writeSegs_crits pairs st1 _ buf 0 f1 (Prod.ext rfl hfound)
    rw [e1] at c
    refine ⟨_, c, fun a ha => ?_⟩
    obtain ⟨x, hx, xp, xt, xL, xo, xd⟩ := mem_secsOf _ _ _ _ ha
    exact ⟨x.1, pMatch_pairs_mem hm x hx, xp, xt, xL, xo, xd⟩

/-- Z1 (trees that cannot be told apart). Two well-formed, observationally equivalent trees, no fault points, the
    candidates of `w` regular files: if the evaluation of `w` on the first does not end in an I/O error, it gives the
    same answer on the second, and observationally equivalent trees. -/
theorem C17_solvePiece_obsEq (H : Bytes → Bytes) (st st' : St) (w : Work)
    (hf : st.faults = []) (hf' : st'.faults = []) (hwf : FsWF st.fs) (hwf' : FsWF st'.fs)
    (hfiles : FilesOk st.fs w) (hobs : ObsEq st.fs st'.fs) (hne : (solvePiece H st w).2 ≠ .fault) :
    (solvePiece H st' w).2 = (solvePiece H st w).2 ∧ ObsEq (solvePiece H st w).1.fs (solvePiece H st' w).1.fs := by
  have hfiles' : FilesOk st'.fs w := by
    intro s hs paths hps p hp
    obtain ⟨i, hi⟩ := hfiles s hs paths hps p hp
    obtain ⟨j, hj, _⟩ := C05_obsEq_look_file hobs hi
    exact ⟨j, hj⟩
  obtain ⟨h1, h2⟩ := solvePiece_congr H st st' w hf hf' hwf hwf' hfiles hfiles' ((obsEq_iff_view _ _).1 hobs) hne
  exact ⟨h1, (obsEq_iff_view _ _).2 h2⟩

/-- Z1 (the frame that makes the induction go through). `w1`, `w2` are two work items of `work` whose ranges inside a
    common export image are disjoint (`PC`, the cross-item clause of `RangesDisjoint`). From a state without fault
    points whose tree is well-formed, has no aliased export image, whose candidates are regular files, and in which
    own-image candidates have their declared length: if the evaluation of `w1` does not end in an I/O error, THE TREE
    AFTER IT AGREES WITH THE TREE BEFORE IT ON EVERYTHING `w2` READS (`ReadAgree`) — so by `C17_solvePiece_reads` the
    matcher of `w2` decides the same before and after `w1`. This is the relation used: finer than `ObsEq` (the trees
    do differ — in the images of `w1`, outside the ranges of `w2`), and exactly what the matcher depends on.
    Why: a candidate of `w2` that is no export image shares no file with an image `w1` writes (`NoCross`, `NoAlias`);
    the own image of a segment of `w2` has its declared length already, so the `set_len` of `w1` does nothing to it,
    and `w1` writes it outside that segment's range. -/
theorem C17_solvePiece_frame (H : Bytes → Bytes) (st : St) (table : List TEntry) (work : List Work) (w1 w2 : Work)
    (hf : st.faults = []) (hwf : FsWF st.fs) (hna : NoAlias st.fs table)
    (hcross : NoCross st.fs table work) (hent : ∀ w ∈ work, ∀ s ∈ w.segs, s.ent ∈ table)
    (hrange : ∀ w ∈ work, SegsInRange w)
    (hsame : ∀ e ∈ table, ∀ f ∈ table, e.isPad = false → f.isPad = false →
      e.fullTarget = f.fullTarget → e.fileLength = f.fileLength)
    (hfiles : ∀ w ∈ work, FilesOk st.fs w) (hown : ∀ w ∈ work, OwnLen st.fs w)
    (hw1 : w1 ∈ work) (hw2 : w2 ∈ work) (hpc : PC w1 w2) (h1 : (solvePiece H st w1).2 ≠ .fault) :
    ReadAgree (view st.fs).F (view (solvePiece H st w1).1.fs).F w2 ∧
    (solvePiece H st w1).1.faults = [] ∧ FsWF (solvePiece H st w1).1.fs ∧
    NoAlias (solvePiece H st w1).1.fs table ∧
    (∀ w ∈ work, FilesOk (solvePiece H st w1).1.fs w) ∧ (∀ w ∈ work, OwnLen (solvePiece H st w1).1.fs w) := by
  have S := stat_of hent hrange hsame hcross
  have G : Good table work (view st.fs) := good_of_fs hwf hna hfiles hown
  obtain ⟨f1, wf1, a, _⟩ := solvePiece_view H st w1 hf hwf (hfiles w1 hw1)
  have G1 := vstepP_good S G hw1 (a h1)
  refine ⟨vstepP_frame S G hw1 hw2 hpc (a h1), f1, wf1, ?_, fun w hw => filesOk_of_good G1 hw, ?_⟩
  · intro e he hp q i hi hq
    apply G1.alias e he hp q
    show (((solvePiece H st w1).1.fs.inoOf e.fullTarget).isSome
      && (solvePiece H st w1).1.fs.inoOf e.fullTarget == (solvePiece H st w1).1.fs.inoOf q) = true
    rw [hi, hq]
    simp
  · intro w hw s hs sp paths hps hmem i hi
    exact G1.ownLen w hw s hs sp paths hps hmem _ (by
      show ((solvePiece H st w1).1.fs.inoOf s.ent.fullTarget).map _ = _
      rw [hi]; rfl)

/-- Z2. TWO PIECES COMMUTE. `w1`, `w2` are two pieces evaluated from the state `st`, in the two possible orders.

    assumed
    * `hf`: no fault points (`faults = []`) — the statement is about the order, not about injected I/O errors;
    * `hwf`: the tree is well-formed (`FsWF`);
    * `hna`: no export image of the table shares its inode with another name (`NoAlias`) — so that a write to an
      image shows through no candidate and no other image;
    * `hcross`: `NoCross` for the two pieces — every candidate is the segment's own image or no image at all;
    * `hent`: the entries of the segments are table entries (true for the work items of a run);
    * `hc : PiecesCompat st.fs w1 w2` — of which `SegsInRange` for both pieces and the cross-item clause of
      `RangesDisjoint` (segments of `w1` and `w2` in the same image occupy disjoint ranges) are used;
    * `hsame`: non-padding table entries with the same image declare the same length (finding D6 otherwise);
    * `hfiles`: the candidates are regular files, so that no candidate read fails (the index registers regular
      files only, and they stay regular files: `RunQ.candidates_files`; whether the statement survives without it
      has not been examined — a missing candidate makes the evaluation end in an I/O error in either order);
    * `hown` (`OwnLen`): a segment's OWN image, when it is among the segment's candidates, has its declared length.
      THIS HYPOTHESIS IS NECESSARY: `C17_own_image_short_cex`. With a shorter own image the `set_len` of the other
      piece (another range of the same file) extends it with zeros before it is read, and a piece of zeros that was
      not found in the short file is found in the extended one. In a run the index registers an export image as a
      candidate only under its actual length, so the hypothesis holds in the state in which a run starts to evaluate
      pieces (`C17_own_length_of_run`), and it is kept by every piece evaluation;
    * `h1`, `h12`: in the order `w1`, `w2` neither evaluation ends in an I/O error. Without fault points that can only
      come from the writer (a regular file where a directory is needed, a directory where the image is to be
      created, a matched buffer shorter than the piece). THIS HYPOTHESIS IS NECESSARY: `C17_nested_images_cex` (the
      image of the one piece is a proper prefix of the image of the other: whichever comes second fails).
    NOT assumed: `HInjOn` (the pieces read the same bytes in both orders, so they match the same buffers), anything
    about the answers being `found` (a piece may be `notFound` — in both orders — or the whole evaluation may panic),
    `w1 ≠ w2`.

    proved: `w2` gets the same answer before and after `w1`; `w1` gets the same answer after `w2` as before (so the
    other order meets no I/O error either); the two final trees are observationally equivalent (`ObsEq`; they are in
    general not equal: inode numbers of created files depend on the order). -/
theorem C17_two_pieces_commute (H : Bytes → Bytes) (st : St) (table : List TEntry) (w1 w2 : Work)
    (hf : st.faults = []) (hwf : FsWF st.fs) (hna : NoAlias st.fs table)
    (hcross : NoCross st.fs table [w1, w2])
    (hent : ∀ w ∈ [w1, w2], ∀ s ∈ w.segs, s.ent ∈ table)
    (hc : PiecesCompat st.fs w1 w2)
    (hsame : ∀ e ∈ table, ∀ f ∈ table, e.isPad = false → f.isPad = false →
      e.fullTarget = f.fullTarget → e.fileLength = f.fileLength)
    (hfiles : ∀ w ∈ [w1, w2], FilesOk st.fs w) (hown : ∀ w ∈ [w1, w2], OwnLen st.fs w)
    (h1 : (solvePiece H st w1).2 ≠ .fault) (h12 : (solvePiece H (solvePiece H st w1).1 w2).2 ≠ .fault) :
    (solvePiece H st w2).2 = (solvePiece H (solvePiece H st w1).1 w2).2 ∧
    (solvePiece H (solvePiece H st w2).1 w1).2 = (solvePiece H st w1).2 ∧
    ObsEq (solvePiece H (solvePiece H st w1).1 w2).1.fs (solvePiece H (solvePiece H st w2).1 w1).1.fs := by
  have hrange : ∀ w ∈ [w1, w2], SegsInRange w := by
    intro w hw
    rcases List.mem_cons.1 hw with rfl | hw
    · exact hc.r1
    · rcases List.mem_cons.1 hw with rfl | hw
      · exact hc.r2
      · cases hw
  have S := stat_of hent hrange hsame hcross
  have G : Good table [w1, w2] (view st.fs) := good_of_fs hwf hna hfiles hown
  exact two_pieces S H st hf hwf G List.mem_cons_self (List.mem_cons_of_mem _ List.mem_cons_self) hc.cross h1 h12

/-- the hypotheses of `C17_two_pieces_commute` about the tree, the table and the two pieces (all but `OwnLen`), in a
    form that can be evaluated; the images of the two pieces are not hard-linked -/
theorem twoPieces_of_dec {fs : Fs} {table : List TEntry} {w1 w2 : Work}
    (hwf : FsWF fs)
    (hna : ∀ e ∈ table, ∀ f ∈ fs.files, ∀ g ∈ fs.files, f.1 = e.fullTarget → g.2 = f.2 → g.1 = e.fullTarget)
    (hseg : ∀ w ∈ [w1, w2], ∀ s ∈ w.segs, s.ent ∈ table ∧ s.off + s.len ≤ s.ent.fileLength ∧
      ∀ p ∈ s.ent.searches.getD [], (p = s.ent.fullTarget ∨ ∀ e ∈ table, p ≠ e.fullTarget) ∧
        (match fs.look p with | .file _ => true | _ => false) = true)
    (hpair : ∀ s ∈ w1.segs, ∀ t ∈ w2.segs,
      (s.ent.fullTarget = t.ent.fullTarget →
        (s.off + s.len ≤ t.off ∨ t.off + t.len ≤ s.off) ∧ s.ent.fileLength = t.ent.fileLength) ∧
      (s.ent.fullTarget ≠ t.ent.fullTarget →
        ∀ f ∈ fs.files, ∀ g ∈ fs.files, f.1 = s.ent.fullTarget → g.1 = t.ent.fullTarget → f.2 ≠ g.2))
    (hsame : ∀ e ∈ table, ∀ f ∈ table, e.isPad = false → f.isPad = false →
      e.fullTarget = f.fullTarget → e.fileLength = f.fileLength) :
    FsWF fs ∧ NoAlias fs table ∧ NoCross fs table [w1, w2] ∧ (∀ w ∈ [w1, w2], ∀ s ∈ w.segs, s.ent ∈ table) ∧
    PiecesCompat fs w1 w2 ∧
    (∀ e ∈ table, ∀ f ∈ table, e.isPad = false → f.isPad = false →
      e.fullTarget = f.fullTarget → e.fileLength = f.fileLength) ∧
    ∀ w ∈ [w1, w2], FilesOk fs w := by
  have hna' : NoAlias fs table := RunJ.NoAl.of_check fs table hna
  refine ⟨hwf, hna', ?_, fun w hw s hs => (hseg w hw s hs).1, ?_, hsame, ?_⟩
  · exact NoCross_of_names _ _ _ hna' fun w hw s hs _ paths hps p hp =>
      ((hseg w hw s hs).2.2 p (by rw [hps]; exact hp)).1
  · exact ⟨fun s hs => (hseg w1 List.mem_cons_self s hs).2.1,
      fun s hs => (hseg w2 (List.mem_cons_of_mem _ List.mem_cons_self) s hs).2.1,
      fun s hs t ht _ _ e => ((hpair s hs t ht).1 e).1, fun s hs t ht _ _ e => ((hpair s hs t ht).1 e).2,
      fun s hs t ht _ _ e _ _ hi hj => (hpair s hs t ht).2 e _ (RunF.inoOf_mem hi) _ (RunF.inoOf_mem hj) rfl rfl⟩
  · intro w hw s hs paths hps p hp
    have := ((hseg w hw s hs).2.2 p (by rw [hps]; exact hp)).2
    cases hl : fs.look p with
    | file i => exact ⟨i, rfl⟩
    | _ => rw [hl] at this; cases this

namespace C17w

/-- the image `d/x` -/
def tx : Path := [[100], [120]]
/-- a source file `s` -/
def sx : Path := [[115]]
/-- the image `d/x` exists with ONE byte `[5]` (its declared length is 2); the source `s` holds `[7]` -/
def fsS : Fs := ⟨[(tx, 0), (sx, 1)], [[[100]]], [(0, [5]), (1, [7])], 2⟩
/-- the entry of `d/x`, declared length 2, candidates: its own image, then `s` -/
def eS : TEntry := ⟨0, [], 0, 2, tx, [[120]], false, some [tx, sx]⟩
/-- piece 1: the range [0,1) of `d/x`, bytes `[7]` -/
def v1 : Work := ⟨[⟨1, 0, eS⟩], [7]⟩
/-- piece 2: the range [1,2) of `d/x`, bytes `[0]` -/
def v2 : Work := ⟨[⟨1, 1, eS⟩], [0]⟩
def stS : St := ⟨fsS, [], []⟩

end C17w

/-- WHY `OwnLen` IS ASSUMED (`H = id`). One file `d/x` of declared length 2, two pieces: `v1` = range [0,1) with bytes
    `[7]`, `v2` = range [1,2) with bytes `[0]`. The image exists but is SHORT (one byte, `[5]`); the candidates of
    the file are its own image and a source `s = [7]`. There is no cross-candidate, and every hypothesis of
    `C17_two_pieces_commute` other than `OwnLen` holds. Yet:
    * `v2` first: it reads the range [1,2) of the short image and of `s` — nothing there — and is NOT FOUND;
    * `v1` first: it is found in `s`, and writing it performs `set_len 2` on the image, which becomes `[7, 0]`;
      then `v2` reads `[0]` at [1,2) of its own image and is FOUND.
    So the order changes an answer (and the counters) although no candidate list reaches another entry's image. -/
theorem C17_own_image_short_cex :
    C17w.stS.faults = [] ∧ FsWF C17w.stS.fs ∧ NoAlias C17w.stS.fs [C17w.eS] ∧
    NoCross C17w.stS.fs [C17w.eS] [C17w.v1, C17w.v2] ∧
    (∀ w ∈ [C17w.v1, C17w.v2], ∀ s ∈ w.segs, s.ent ∈ [C17w.eS]) ∧
    PiecesCompat C17w.stS.fs C17w.v1 C17w.v2 ∧
    (∀ e ∈ [C17w.eS], ∀ f ∈ [C17w.eS], e.isPad = false → f.isPad = false →
      e.fullTarget = f.fullTarget → e.fileLength = f.fileLength) ∧
    (∀ w ∈ [C17w.v1, C17w.v2], FilesOk C17w.stS.fs w) ∧
    (solvePiece id C17w.stS C17w.v1).2 = .found ∧
    (solvePiece id (solvePiece id C17w.stS C17w.v1).1 C17w.v2).2 = .found ∧
    (solvePiece id C17w.stS C17w.v2).2 = .notFound ∧
    ¬ OwnLen C17w.stS.fs C17w.v2 := by
  obtain ⟨hwf, hna, hcross, hent, hc, hsame, hfiles⟩ := twoPieces_of_dec (fs := C17w.stS.fs) (table := [C17w.eS])
    (w1 := C17w.v1) (w2 := C17w.v2) (by decide +kernel) (by decide +kernel) (by decide +kernel) (by decide +kernel)
    (by decide +kernel)
  have ev : (solvePiece id C17w.stS C17w.v1).2 = .found ∧
      (solvePiece id (solvePiece id C17w.stS C17w.v1).1 C17w.v2).2 = .found ∧
      (solvePiece id C17w.stS C17w.v2).2 = .notFound := by decide +kernel
  refine ⟨rfl, hwf, hna, hcross, hent, hc, hsame, hfiles, ev.1, ev.2.1, ev.2.2, fun h => ?_⟩
  exact absurd (h ⟨1, 1, C17w.eS⟩ List.mem_cons_self rfl _ rfl List.mem_cons_self 0 (by decide +kernel))
    (by decide +kernel)

/-- hence `hown` cannot be dropped from `C17_two_pieces_commute` -/
theorem C17_two_pieces_commute_needs_ownLen :
    ¬ (∀ (H : Bytes → Bytes) (st : St) (table : List TEntry) (w1 w2 : Work),
        st.faults = [] → FsWF st.fs → NoAlias st.fs table → NoCross st.fs table [w1, w2] →
        (∀ w ∈ [w1, w2], ∀ s ∈ w.segs, s.ent ∈ table) → PiecesCompat st.fs w1 w2 →
        (∀ e ∈ table, ∀ f ∈ table, e.isPad = false → f.isPad = false →
          e.fullTarget = f.fullTarget → e.fileLength = f.fileLength) →
        (∀ w ∈ [w1, w2], FilesOk st.fs w) →
        (solvePiece H st w1).2 ≠ .fault → (solvePiece H (solvePiece H st w1).1 w2).2 ≠ .fault →
        (solvePiece H st w2).2 = (solvePiece H (solvePiece H st w1).1 w2).2) := by
  intro h
  obtain ⟨a, b, c, d, e, f, g, i, j, k, l, _⟩ := C17_own_image_short_cex
  have := h id _ _ _ _ a b c d e f g i (by rw [j]; intro x; cases x) (by rw [k]; intro x; cases x)
  rw [k, l] at this
  cases this

/-- a checkable form of `OwnLen` -/
theorem ownLen_of_dec {fs : Fs} {w : Work}
    (h : ∀ s ∈ w.segs, ∀ f ∈ fs.files, f.1 = s.ent.fullTarget → (fs.content f.2).length = s.ent.fileLength) :
    OwnLen fs w :=
  fun s hs _ _ _ _ _ hi => h s hs _ (RunF.inoOf_mem hi) rfl

namespace C17w

/-- as `fsS`, but the image `d/x` has its declared length 2: `[5, 0]` -/
def fsS2 : Fs := ⟨[(tx, 0), (sx, 1)], [[[100]]], [(0, [5, 0]), (1, [7])], 2⟩
def stS2 : St := ⟨fsS2, [], []⟩

end C17w

/-- NON-VACUITY of `C17_two_pieces_commute`, with an OWN IMAGE AS CANDIDATE: the world of `C17_own_image_short_cex`
    with the image at its declared length (`[5, 0]`). All hypotheses hold. `v1` (range [0,1), bytes `[7]`) is found
    in the source and written into the image; `v2` (range [1,2), bytes `[0]`) is found in its own image — before and
    after `v1` has written the other range of the same file — and both orders leave `[7, 0]`. -/
example :
    (solvePiece id C17w.stS2 C17w.v2).2 = .found ∧
    (solvePiece id (solvePiece id C17w.stS2 C17w.v1).1 C17w.v2).2 = .found ∧
    (solvePiece id (solvePiece id C17w.stS2 C17w.v2).1 C17w.v1).2 = .found ∧
    (solvePiece id (solvePiece id C17w.stS2 C17w.v1).1 C17w.v2).1.fs.content 0 = [7, 0] ∧
    ObsEq (solvePiece id (solvePiece id C17w.stS2 C17w.v1).1 C17w.v2).1.fs
      (solvePiece id (solvePiece id C17w.stS2 C17w.v2).1 C17w.v1).1.fs := by
  obtain ⟨hwf, hna, hcross, hent, hc, hsame, hfiles⟩ := twoPieces_of_dec (fs := C17w.stS2.fs) (table := [C17w.eS])
    (w1 := C17w.v1) (w2 := C17w.v2) (by decide +kernel) (by decide +kernel) (by decide +kernel) (by decide +kernel)
    (by decide +kernel)
  have hown : ∀ w ∈ [C17w.v1, C17w.v2], OwnLen C17w.stS2.fs w := by
    have key : ∀ w ∈ [C17w.v1, C17w.v2], ∀ s ∈ w.segs, ∀ f ∈ C17w.stS2.fs.files, f.1 = s.ent.fullTarget →
        (C17w.stS2.fs.content f.2).length = s.ent.fileLength := by decide +kernel
    exact fun w hw => ownLen_of_dec (key w hw)
  have ev : (solvePiece id C17w.stS2 C17w.v1).2 = .found ∧
      (solvePiece id (solvePiece id C17w.stS2 C17w.v1).1 C17w.v2).2 = .found ∧
      (solvePiece id (solvePiece id C17w.stS2 C17w.v1).1 C17w.v2).1.fs.content 0 = [7, 0] := by decide +kernel
  obtain ⟨a, b, c⟩ := C17_two_pieces_commute id C17w.stS2 [C17w.eS] C17w.v1 C17w.v2 rfl hwf hna hcross hent hc hsame
    hfiles hown (by rw [ev.1]; intro h; cases h) (by rw [ev.2.1]; intro h; cases h)
  exact ⟨a.trans ev.2.1, ev.2.1, b.trans ev.1, ev.2.2, c⟩

namespace C17w

/-- the image `d/x/y`: the image `d/x` is a proper prefix of it -/
def ty : Path := [[100], [120], [121]]
def sa : Path := [[97]]
def sb : Path := [[98]]
/-- two source files `a = [1]`, `b = [2]`; no export image exists -/
def fsN : Fs := ⟨[(sa, 0), (sb, 1)], [], [(0, [1]), (1, [2])], 2⟩
def eN1 : TEntry := ⟨0, [], 0, 1, tx, [[120]], false, some [sa]⟩
def eN2 : TEntry := ⟨1, [], 1, 1, ty, [[121]], false, some [sb]⟩
def n1 : Work := ⟨[⟨1, 0, eN1⟩], [1]⟩
def n2 : Work := ⟨[⟨1, 0, eN2⟩], [2]⟩
def stN : St := ⟨fsN, [], []⟩

end C17w

/-- WHY "NO I/O ERROR" IS ASSUMED (`H = id`). Two pieces whose images are NESTED: `d/x` and `d/x/y` (a torrent that
    lists both `x` and `x/y` as files). Both are found in source files; no cross-candidate; every hypothesis of
    `C17_two_pieces_commute` other than `h12` holds. Whichever piece is written second fails — after `d/x` has become
    a regular file, `create_dir_all d/x` fails; after `d/x` has become a directory, the create-open of `d/x` fails
    — so the ANSWERS OF THE TWO PIECES ARE EXCHANGED between the two orders and the final trees differ (`d/x` is a
    regular file in the one and a directory in the other). -/
theorem C17_nested_images_cex :
    C17w.stN.faults = [] ∧ FsWF C17w.stN.fs ∧ NoAlias C17w.stN.fs [C17w.eN1, C17w.eN2] ∧
    NoCross C17w.stN.fs [C17w.eN1, C17w.eN2] [C17w.n1, C17w.n2] ∧
    (∀ w ∈ [C17w.n1, C17w.n2], ∀ s ∈ w.segs, s.ent ∈ [C17w.eN1, C17w.eN2]) ∧
    PiecesCompat C17w.stN.fs C17w.n1 C17w.n2 ∧
    (∀ e ∈ [C17w.eN1, C17w.eN2], ∀ f ∈ [C17w.eN1, C17w.eN2], e.isPad = false → f.isPad = false →
      e.fullTarget = f.fullTarget → e.fileLength = f.fileLength) ∧
    (∀ w ∈ [C17w.n1, C17w.n2], FilesOk C17w.stN.fs w) ∧ (∀ w ∈ [C17w.n1, C17w.n2], OwnLen C17w.stN.fs w) ∧
    (solvePiece id C17w.stN C17w.n1).2 = .found ∧
    (solvePiece id (solvePiece id C17w.stN C17w.n1).1 C17w.n2).2 = .fault ∧
    (solvePiece id C17w.stN C17w.n2).2 = .found ∧
    (solvePiece id (solvePiece id C17w.stN C17w.n2).1 C17w.n1).2 = .fault ∧
    ¬ ObsEq (solvePiece id (solvePiece id C17w.stN C17w.n1).1 C17w.n2).1.fs
        (solvePiece id (solvePiece id C17w.stN C17w.n2).1 C17w.n1).1.fs := by
  obtain ⟨hwf, hna, hcross, hent, hc, hsame, hfiles⟩ := twoPieces_of_dec (fs := C17w.stN.fs)
    (table := [C17w.eN1, C17w.eN2]) (w1 := C17w.n1) (w2 := C17w.n2) (by decide +kernel) (by decide +kernel)
    (by decide +kernel) (by decide +kernel) (by decide +kernel)
  have hown : ∀ w ∈ [C17w.n1, C17w.n2], ∀ s ∈ w.segs, s.ent.fullTarget ∉ s.ent.searches.getD [] := by decide +kernel
  have ev : (solvePiece id C17w.stN C17w.n1).2 = .found ∧
      (solvePiece id (solvePiece id C17w.stN C17w.n1).1 C17w.n2).2 = .fault ∧
      (solvePiece id C17w.stN C17w.n2).2 = .found ∧
      (solvePiece id (solvePiece id C17w.stN C17w.n2).1 C17w.n1).2 = .fault ∧
      (solvePiece id (solvePiece id C17w.stN C17w.n1).1 C17w.n2).1.fs.isDir C17w.tx ≠
        (solvePiece id (solvePiece id C17w.stN C17w.n2).1 C17w.n1).1.fs.isDir C17w.tx := by decide +kernel
  exact ⟨rfl, hwf, hna, hcross, hent, hc, hsame, hfiles,
    fun w hw s hs _ paths hps hmem => absurd (by rw [hps]; exact hmem) (hown w hw s hs),
    ev.1, ev.2.1, ev.2.2.1, ev.2.2.2.1, fun h => ev.2.2.2.2 (h.1 C17w.tx)⟩

/-- the answers of the pieces of a run, in the order of their evaluation: `RunZ.evalAll` (evaluate one after the
    other, record every answer) started in the state `runSt3 inp` in which a run begins to evaluate pieces, on the
    order `RunQ.evalOrder (run H inp).work inp.order` the run uses (`C02_run_eval`). `C17_run_answers` ties it to `run`. -/
def C17_answers (H : Bytes → Bytes) (inp : RunIn) : List (Work × Solved) :=
  (evalAll H (runSt3 inp) (RunQ.evalOrder (run H inp).work inp.order)).2

/-- if no piece panics, the tree, the counters and the result of a run (with a non-empty work list) are those of
    `RunZ.evalAll`: the final tree is the tree after the last piece, the counters are the running totals of the
    answers (`RunZ.countersOf`), the result is `ok` -/
theorem C17_run_answers (H : Bytes → Bytes) (inp : RunIn) (hw : (run H inp).work ≠ [])
    (hnp : ∀ x ∈ C17_answers H inp, x.2 ≠ .panic) :
    (run H inp).fs = (evalAll H (runSt3 inp) (RunQ.evalOrder (run H inp).work inp.order)).1.fs ∧
    (run H inp).counters = countersOf ⟨0, 0, 0⟩ ((C17_answers H inp).map (·.2)) ∧
    (run H inp).result = .ok () := by
  obtain ⟨_, _, _, hfs, hcnt, hres⟩ := C02_run_eval H inp hw
  have e := solveAll_eq_evalAll H (RunQ.evalOrder (run H inp).work inp.order) (runSt3 inp) ⟨0, 0, 0⟩ [] hnp
  rw [e] at hfs hcnt hres
  exact ⟨hfs, by simpa [C17_answers] using hcnt, by simpa using hres⟩

theorem isEmpty_perm {α : Type} {l l' : List α} (h : l.Perm l') : l.isEmpty = l'.isEmpty := by
  cases l with
  | nil => rw [List.nil_perm.1 h]
  | cons a t =>
    cases l' with
    | nil => exact absurd (List.perm_nil.1 h) (by simp)
    | cons _ _ => rfl

theorem pairwise_PC_of_disj {work : List Work} (h : RangesDisjoint work) : work.Pairwise PC := by
  rw [List.pairwise_iff_getElem]
  intro i j hi hj hij s hs t ht sp tp e
  exact h.1 i j _ _ (List.getElem?_eq_getElem hi) (List.getElem?_eq_getElem hj) (by omega) s hs t ht sp tp e

/-- Z3. THE ORDER OF EVALUATION DOES NOT MATTER WHEN THERE ARE NO CROSS-CANDIDATES. `inp` and
    `{ inp with order := order' }` are two runs that differ in the observed evaluation order only (any two orders:
    an observation that is no permutation of the work list is replaced by the default order, `RunQ.evalOrder`).

    assumed (all about `inp`; the table, the work list and the state `runSt3 inp` in which the evaluation of the pieces
    starts do not depend on `order`: `RunZ.run_order`)
    * `hfa`: no fault points;
    * `hwf`, `hna`: the initial tree is well-formed and no export image of the table shares its inode with another
      name (`NoAlias`);
    * `hcross`: `NoCross` — the rule under which final trees of different real runs are compared;
    * `hrange`, `hsame`, `hdisj`: the layout facts `SegsInRange`, same image ⇒ same declared length,
      `RangesDisjoint` (only its first, cross-item clause is used);
    * `hown` (`OwnLen`, on the tree of `runSt3 inp`): a segment's own image, when it is among its candidates, has the
      declared length. Necessary for two pieces in general (`C17_own_image_short_cex`); NOT an extra condition on a
      run: it holds for every run on a well-formed tree — `C17_own_length_of_run` — and
      `C17_order_independent'` is this theorem without it;
    * `hok`: in the order of `inp` every piece is answered `found` or `notFound` — no I/O error (without fault
      points: the writer hit a regular file where it needs a directory or a directory where it creates the image, or
      the matched buffer is too short; sufficient conditions on the initial tree: `C02_run_no_fault`) and no panic.
      Necessary: `C17_nested_images_cex`.
    NOT assumed: `HInjOn`; anything about which pieces are found.

    proved, for the other order
    * every piece is answered `found` or `notFound` as well;
    * the answers are the same up to their order: `(C17_answers H inp).Perm (C17_answers H inp')` — the same multiset
      of (piece, answer);
    * hence the same final counters, and both results are `ok`;
    * the final trees are observationally equivalent.

    Proof: on the observable part of the tree (`RunX.View`) the evaluation of a piece is a function `RunZ.vstepP` of
    the view (`RunZ.solvePiece_view`); the critical sections of one piece do not change what another piece reads
    (`RunZ.vrun_frame`), so two pieces commute with equality (`RunZ.two_comm`, on states `RunZ.two_pieces`), and the
    adjacent transpositions generate every permutation (`RunZ.ev_perm`, induction on `List.Perm` as in
    `C05_any_write_order`). -/
theorem C17_order_independent (H : Bytes → Bytes) (inp : RunIn) (order' : List (List (Nat × Nat × Nat) × Bytes))
    (hfa : inp.faults = []) (hwf : FsWF inp.fs)
    (hna : NoAlias inp.fs (run H inp).table)
    (hcross : NoCross inp.fs (run H inp).table (run H inp).work)
    (hrange : ∀ w ∈ (run H inp).work, SegsInRange w)
    (hsame : ∀ e ∈ (run H inp).table, ∀ f ∈ (run H inp).table, e.isPad = false → f.isPad = false →
      e.fullTarget = f.fullTarget → e.fileLength = f.fileLength)
    (hdisj : RangesDisjoint (run H inp).work)
    (hown : ∀ w ∈ (run H inp).work, OwnLen (runSt3 inp).fs w)
    (hok : ∀ x ∈ C17_answers H inp, x.2 = .found ∨ x.2 = .notFound) :
    (∀ x ∈ C17_answers H { inp with order := order' }, x.2 = .found ∨ x.2 = .notFound) ∧
    (C17_answers H inp).Perm (C17_answers H { inp with order := order' }) ∧
    (run H { inp with order := order' }).counters.getLast? = (run H inp).counters.getLast? ∧
    (run H { inp with order := order' }).result = (run H inp).result ∧
    ObsEq (run H inp).fs (run H { inp with order := order' }).fs := by
  obtain ⟨htab, hwork, hempty⟩ := run_order H inp order'
  have hans' : C17_answers H { inp with order := order' }
      = (evalAll H (runSt3 inp) (RunQ.evalOrder (run H inp).work order')).2 := by
    unfold C17_answers
    rw [hwork]
    rfl
  by_cases hw : (run H inp).work = []
  · obtain ⟨e1, e2, e3⟩ := hempty hw
    have n1 : C17_answers H inp = [] := by
      unfold C17_answers
      have : RunQ.evalOrder (run H inp).work inp.order = [] := by
        rw [hw]; exact List.eq_nil_of_length_eq_zero (RunQ.evalOrder_perm [] inp.order).length_eq
      rw [this]; rfl
    have n2 : C17_answers H { inp with order := order' } = [] := by
      rw [hans']
      have : RunQ.evalOrder (run H inp).work order' = [] := by
        rw [hw]; exact List.eq_nil_of_length_eq_zero (RunQ.evalOrder_perm [] order').length_eq
      rw [this]; rfl
    rw [n1, n2, e1, e2, e3]
    exact ⟨fun x hx => (by cases hx), List.Perm.refl _, rfl, rfl, ObsEq.refl _⟩
  · have hw' : (run H { inp with order := order' }).work ≠ [] := by rw [hwork]; exact hw
    have F := RunQ.facts H inp hw
    have hent := convertPiecesToWork_ent F.conv
    have hf3 : (runSt3 inp).faults = [] := F.faults.trans hfa
    have hwf3 : FsWF (runSt3 inp).fs := F.loc.wf hwf
    have hna3 : NoAlias (runSt3 inp).fs (run H inp).table := (RunQ.sinv_of_reach hwf hna (RunQ.reach_st3 inp)).na
    have S := stat_of hent hrange hsame hcross
    have hfiles : ∀ w ∈ (run H inp).work, FilesOk (runSt3 inp).fs w := fun w hwm s hs paths hps p hp =>
      RunQ.candidates_files H inp F hwf _ (RunF.Loc.refl _ _) s.ent (hent w hwm s hs) paths hps p hp
    have G : Good (run H inp).table (run H inp).work (view (runSt3 inp).fs) := good_of_fs hwf3 hna3 hfiles hown
    have p1 := RunQ.evalOrder_perm (run H inp).work inp.order
    have p2 := RunQ.evalOrder_perm (run H inp).work order'
    have hpw : (RunQ.evalOrder (run H inp).work inp.order).Pairwise PC :=
      p1.symm.pairwise (pairwise_PC_of_disj hdisj) (fun h => h.symm)
    have hokf : ∀ x ∈ (evalAll H (runSt3 inp) (RunQ.evalOrder (run H inp).work inp.order)).2, x.2 ≠ .fault := by
      intro x hx h
      rcases hok x hx with h' | h' <;> rw [h'] at h <;> cases h
    obtain ⟨_, hperm, hobs⟩ := evalAll_perm S H (runSt3 inp) hf3 hwf3 G (p1.trans p2.symm) hpw
      (fun w hwm => RunQ.mem_evalOrder.1 hwm) hokf
    have hok' : ∀ x ∈ C17_answers H { inp with order := order' }, x.2 = .found ∨ x.2 = .notFound := by
      intro x hx
      rw [hans'] at hx
      exact hok x (hperm.symm.subset hx)
    have np : ∀ x ∈ C17_answers H inp, x.2 ≠ .panic := by
      intro x hx h
      rcases hok x hx with h' | h' <;> rw [h'] at h <;> cases h
    have np' : ∀ x ∈ C17_answers H { inp with order := order' }, x.2 ≠ .panic := by
      intro x hx h
      rcases hok' x hx with h' | h' <;> rw [h'] at h <;> cases h
    obtain ⟨a1, a2, a3⟩ := C17_run_answers H inp hw np
    obtain ⟨b1, b2, b3⟩ := C17_run_answers H { inp with order := order' } hw' np'
    have hb1 : (run H { inp with order := order' }).fs
        = (evalAll H (runSt3 inp) (RunQ.evalOrder (run H inp).work order')).1.fs := by
      rw [b1, hwork]; rfl
    refine ⟨hok', by rw [hans']; exact hperm, ?_, by rw [a3, b3], by rw [a1, hb1]; exact hobs⟩
    rw [a2, b2, countersOf_getLast?, countersOf_getLast?]
    have hpm : ((C17_answers H inp).map (·.2)).Perm ((C17_answers H { inp with order := order' }).map (·.2)) := by
      rw [hans']; exact hperm.map _
    rw [foldl_bump_perm hpm]
    rw [isEmpty_perm hpm]

/-- `OwnLen` IS NOT AN EXTRA CONDITION ON A RUN. In the state in which a run on a well-formed tree starts to evaluate
    pieces, EVERY candidate of every table entry is a regular file with the entry's declared length: the index
    (`addExportPaths`, `addByDirectory`) registers a name under the length its file has (`RunZ.cacheOf_cl`), and
    `populateSearches` gives an entry the names registered under its declared length (`RunZ.populate_len`). -/
theorem C17_candidates_length_of_run (H : Bytes → Bytes) (inp : RunIn) (hwf : FsWF inp.fs)
    (w : Work) (hw : w ∈ (run H inp).work) :
    ∀ s ∈ w.segs, ∀ paths, s.ent.searches = some paths → ∀ p ∈ paths,
      ∃ i, (runSt3 inp).fs.look p = .file i ∧ ((runSt3 inp).fs.content i).length = s.ent.fileLength := by
  have F := RunQ.facts H inp (List.ne_nil_of_mem hw)
  intro s hs paths hps p hp
  exact candidates_length H inp F hwf s.ent (convertPiecesToWork_ent F.conv w hw s hs) paths hps p hp

/-- in particular a segment's own image, when it is among its candidates, has the declared length -/
theorem C17_own_length_of_run (H : Bytes → Bytes) (inp : RunIn) (hwf : FsWF inp.fs) :
    ∀ w ∈ (run H inp).work, OwnLen (runSt3 inp).fs w := by
  intro w hw s hs _ paths hps hmem i hi
  obtain ⟨j, hj, hl⟩ := C17_candidates_length_of_run H inp hwf w hw s hs paths hps _ hmem
  rw [RunF.look_file_inoOf hj] at hi
  cases hi
  exact hl

/-- Z3, with `OwnLen` discharged: see `C17_order_independent` for the hypotheses and the conclusion. -/
theorem C17_order_independent' (H : Bytes → Bytes) (inp : RunIn) (order' : List (List (Nat × Nat × Nat) × Bytes))
    (hfa : inp.faults = []) (hwf : FsWF inp.fs)
    (hna : NoAlias inp.fs (run H inp).table)
    (hcross : NoCross inp.fs (run H inp).table (run H inp).work)
    (hrange : ∀ w ∈ (run H inp).work, SegsInRange w)
    (hsame : ∀ e ∈ (run H inp).table, ∀ f ∈ (run H inp).table, e.isPad = false → f.isPad = false →
      e.fullTarget = f.fullTarget → e.fileLength = f.fileLength)
    (hdisj : RangesDisjoint (run H inp).work)
    (hok : ∀ x ∈ C17_answers H inp, x.2 = .found ∨ x.2 = .notFound) :
    (∀ x ∈ C17_answers H { inp with order := order' }, x.2 = .found ∨ x.2 = .notFound) ∧
    (C17_answers H inp).Perm (C17_answers H { inp with order := order' }) ∧
    (run H { inp with order := order' }).counters.getLast? = (run H inp).counters.getLast? ∧
    (run H { inp with order := order' }).result = (run H inp).result ∧
    ObsEq (run H inp).fs (run H { inp with order := order' }).fs :=
  C17_order_independent H inp order' hfa hwf hna hcross hrange hsame hdisj (C17_own_length_of_run H inp hwf) hok

/-- the hypothesis `hok` of `C17_order_independent` in terms of what a run reports: the result is `ok` (no panic) and
    no running counter counts an I/O error -/
theorem C17_answers_of_observed (H : Bytes → Bytes) (inp : RunIn) (hres : (run H inp).result = .ok ())
    (hcnt : ∀ c ∈ (run H inp).counters, c.fault = 0) :
    ∀ x ∈ C17_answers H inp, x.2 = .found ∨ x.2 = .notFound := by
  by_cases hw : (run H inp).work = []
  · intro x hx
    unfold C17_answers at hx
    have : RunQ.evalOrder (run H inp).work inp.order = [] := by
      rw [hw]; exact List.eq_nil_of_length_eq_zero (RunQ.evalOrder_perm [] inp.order).length_eq
    rw [this] at hx
    cases hx
  · obtain ⟨_, _, _, _, _, hr⟩ := C02_run_eval H inp hw
    have hflag : (solveAll H (runSt3 inp) (RunQ.evalOrder (run H inp).work inp.order) ⟨0, 0, 0⟩ []).2.2 = false := by
      cases hf : (solveAll H (runSt3 inp) (RunQ.evalOrder (run H inp).work inp.order) ⟨0, 0, 0⟩ []).2.2 with
      | false => rfl
      | true => rw [hf, hres] at hr; cases hr
    have np := solveAll_flag H _ _ _ _ hflag
    obtain ⟨_, a2, _⟩ := C17_run_answers H inp hw np
    rw [a2] at hcnt
    have nf := countersOf_fault _ _ hcnt
    intro x hx
    have h1 := np x hx
    have h2 := nf x.2 (List.mem_map_of_mem hx)
    cases hx2 : x.2 with
    | found => exact Or.inl rfl
    | notFound => exact Or.inr rfl
    | fault => exact absurd hx2 h2
    | panic => exact absurd hx2 h1

/-- Z3 IN TERMS OF WHAT THE RUNS REPORT. Same hypotheses as `C17_order_independent'`, with "no I/O error, no panic"
    stated on the output of the run `inp`: its result is `ok` and none of its running counters counts an I/O error.
    Then the run in any other order also ends `ok`, with the same final counters and an observationally equivalent
    tree. -/
theorem C17_order_independent_observed (H : Bytes → Bytes) (inp : RunIn)
    (order' : List (List (Nat × Nat × Nat) × Bytes))
    (hfa : inp.faults = []) (hwf : FsWF inp.fs)
    (hna : NoAlias inp.fs (run H inp).table)
    (hcross : NoCross inp.fs (run H inp).table (run H inp).work)
    (hrange : ∀ w ∈ (run H inp).work, SegsInRange w)
    (hsame : ∀ e ∈ (run H inp).table, ∀ f ∈ (run H inp).table, e.isPad = false → f.isPad = false →
      e.fullTarget = f.fullTarget → e.fileLength = f.fileLength)
    (hdisj : RangesDisjoint (run H inp).work)
    (hres : (run H inp).result = .ok ()) (hcnt : ∀ c ∈ (run H inp).counters, c.fault = 0) :
    (run H { inp with order := order' }).result = .ok () ∧
    (run H { inp with order := order' }).counters.getLast? = (run H inp).counters.getLast? ∧
    ObsEq (run H inp).fs (run H { inp with order := order' }).fs := by
  obtain ⟨_, _, h3, h4, h5⟩ := C17_order_independent' H inp order' hfa hwf hna hcross hrange hsame hdisj
    (C17_answers_of_observed H inp hres hcnt)
  exact ⟨h4.trans hres, h3, h5⟩

/-- a checkable form of `RangesDisjoint` -/
theorem disj_of_dec {work : List Work}
    (h1 : ∀ a ∈ List.range work.length, ∀ b ∈ List.range work.length, a ≠ b →
      ∀ s ∈ (work[a]?.getD default).segs, ∀ t ∈ (work[b]?.getD default).segs,
        s.ent.fullTarget = t.ent.fullTarget → s.off + s.len ≤ t.off ∨ t.off + t.len ≤ s.off)
    (h2 : ∀ w ∈ work, ∀ a ∈ List.range w.segs.length, ∀ b ∈ List.range w.segs.length, a ≠ b →
      (w.segs[a]?.getD default).ent.fullTarget ≠ (w.segs[b]?.getD default).ent.fullTarget) :
    RangesDisjoint work := by
  constructor
  · intro a b w v ha hb hab s hs t ht _ _ heq
    obtain ⟨la, _⟩ := List.getElem?_eq_some_iff.1 ha
    obtain ⟨lb, _⟩ := List.getElem?_eq_some_iff.1 hb
    have := h1 a (List.mem_range.2 la) b (List.mem_range.2 lb) hab
    rw [ha, hb] at this
    exact this s hs t ht heq
  · intro w hw a b s t ha hb hab _ _
    obtain ⟨la, _⟩ := List.getElem?_eq_some_iff.1 ha
    obtain ⟨lb, _⟩ := List.getElem?_eq_some_iff.1 hb
    have := h2 w hw a (List.mem_range.2 la) b (List.mem_range.2 lb) hab
    rw [ha, hb] at this
    exact this

/-- `NoCross` CANNOT BE DROPPED from `C17_order_independent'`: the world of Z4 satisfies every other hypothesis — no
    fault points, well-formed tree, `NoAlias`, `SegsInRange`, same image ⇒ same length, `RangesDisjoint`, and in the
    default order both pieces are found — and the final counters of the two orders differ. -/
theorem C17_order_independent_needs_noCross :
    ¬ (∀ (H : Bytes → Bytes) (inp : RunIn) (order' : List (List (Nat × Nat × Nat) × Bytes)),
        inp.faults = [] → FsWF inp.fs → NoAlias inp.fs (run H inp).table →
        (∀ w ∈ (run H inp).work, SegsInRange w) →
        (∀ e ∈ (run H inp).table, ∀ f ∈ (run H inp).table, e.isPad = false → f.isPad = false →
          e.fullTarget = f.fullTarget → e.fileLength = f.fileLength) →
        RangesDisjoint (run H inp).work →
        (∀ x ∈ C17_answers H inp, x.2 = .found ∨ x.2 = .notFound) →
        (run H { inp with order := order' }).counters.getLast? = (run H inp).counters.getLast?) := by
  intro h
  have hwf : FsWF (C17w.inp []).fs := by decide +kernel
  have hna : NoAlias (C17w.inp []).fs (run id (C17w.inp [])).table := by
    rw [C17w.run_table]; exact RunJ.NoAl.of_check _ _ (by decide +kernel)
  have hrange : ∀ w ∈ (run id (C17w.inp [])).work, SegsInRange w := by
    rw [C17w.run_work]
    have key : ∀ w ∈ [C17w.wA, C17w.wB], ∀ s ∈ w.segs, s.off + s.len ≤ s.ent.fileLength := by decide +kernel
    exact key
  have hsame : ∀ e ∈ (run id (C17w.inp [])).table, ∀ f ∈ (run id (C17w.inp [])).table, e.isPad = false →
      f.isPad = false → e.fullTarget = f.fullTarget → e.fileLength = f.fileLength := by
    rw [C17w.run_table]; decide +kernel
  have hdisj : RangesDisjoint (run id (C17w.inp [])).work := by
    rw [C17w.run_work]; exact disj_of_dec (by decide +kernel) (by decide +kernel)
  have c1 := C17w.runBA.2.2.2.2.2.1
  have hok := C17_answers_of_observed id (C17w.inp []) C17w.runBA.2.2.2.2.1 (by rw [c1]; decide)
  have := h id (C17w.inp []) C17w.ordAB rfl hwf hna hrange hsame hdisj hok
  have e : ({ C17w.inp [] with order := C17w.ordAB } : RunIn) = C17w.inp C17w.ordAB := rfl
  rw [e, c1, C17w.runAB.2.2.2.1] at this
  cases this

namespace C17w

/-- the observed order "piece 0, then piece 1" in the world `TB.RunQ.Ex` (one file of length 3, piece length 2: two
    pieces writing the ranges [0,2) and [2,3) of the same image, which does not exist yet; the default order
    evaluates piece 1 first) -/
def ord01 : List (List (Nat × Nat × Nat) × Bytes) := [([(0, 0, 2)], [1, 2]), ([(0, 2, 1)], [3])]

end C17w

/-- NON-VACUITY of `C17_order_independent'`: the world `TB.RunQ.Ex` satisfies every hypothesis; the two observed orders
    `[]` (default: piece 1, piece 0) and `ord01` (piece 0, piece 1) are really different evaluation orders; both
    pieces are found in both, and the final trees are observationally equivalent (both orders create the image and
    leave `[1, 2, 3]` in it). -/
example :
    RunQ.evalOrder (run id RunQ.Ex.inp).work RunQ.Ex.inp.order = [RunQ.Ex.w1, RunQ.Ex.w0] ∧
    RunQ.evalOrder (run id { RunQ.Ex.inp with order := C17w.ord01 }).work C17w.ord01 = [RunQ.Ex.w0, RunQ.Ex.w1] ∧
    (C17_answers id RunQ.Ex.inp).Perm (C17_answers id { RunQ.Ex.inp with order := C17w.ord01 }) ∧
    (run id { RunQ.Ex.inp with order := C17w.ord01 }).counters.getLast? = some ⟨2, 0, 0⟩ ∧
    ObsEq (run id RunQ.Ex.inp).fs (run id { RunQ.Ex.inp with order := C17w.ord01 }).fs := by
  have hna : NoAlias RunQ.Ex.inp.fs (run id RunQ.Ex.inp).table := RunQ.Ex.noAlias
  have hcross : NoCross RunQ.Ex.inp.fs (run id RunQ.Ex.inp).table (run id RunQ.Ex.inp).work := by
    apply NoCross_of_names _ _ _ hna
    rw [RunQ.Ex.run_table, RunQ.Ex.run_work]
    have key : ∀ w ∈ [RunQ.Ex.w0, RunQ.Ex.w1], ∀ s ∈ w.segs, ∀ p ∈ s.ent.searches.getD [],
        p = s.ent.fullTarget ∨ ∀ e ∈ [RunQ.Ex.e0], p ≠ e.fullTarget := by decide +kernel
    intro w hw s hs _ paths hps p hp
    exact key w hw s hs p (by rw [hps]; exact hp)
  have hrange : ∀ w ∈ (run id RunQ.Ex.inp).work, SegsInRange w := by
    rw [RunQ.Ex.run_work]
    intro w hw
    rcases List.mem_cons.1 hw with rfl | hw
    · exact RunQ.Ex.range0
    · rcases List.mem_cons.1 hw with rfl | hw
      · exact RunQ.Ex.range1
      · cases hw
  have hok : ∀ x ∈ C17_answers id RunQ.Ex.inp, x.2 = .found ∨ x.2 = .notFound := by decide +kernel
  obtain ⟨_, h2, h3, _, h5⟩ := C17_order_independent' id RunQ.Ex.inp C17w.ord01 rfl RunQ.Ex.wf hna hcross hrange
    RunQ.Ex.sameLen RunQ.Ex.disj hok
  refine ⟨by decide +kernel, by decide +kernel, h2, ?_, h5⟩
  rw [h3]
  decide +kernel

end TB
