/-
  Outcome — the run-level OUTCOME of the model as a function of the arguments and of the initial tree.

  The checker of the implementation uses the clauses
    * "a fault-free run that the model completes must not end in an error" (C16), and
    * "an over-long export image means an error before anything is modified" (C14);
  this file states and proves the model-side facts they rest on.

  O1 `C16_run_outcome`            fault-free, loadable torrents: `(run H inp).result` is a function of
                                   `ArgsOk`, `inp.resize` and three properties of the initial tree
                                   (`RunOverlong`, `RunBlocked`, `RunImageDir`); never `.panic`.
                                   THE STATEMENT WITH `RunOverlong` ALONE IS FALSE (`C16_outcome_needs_image_cases`):
                                   the pre-flight has two more fault-free error sources,
                                     - the image path has a regular file as a proper prefix (`look = .notDir`): the
                                       read-only open of the FIRST pass fails with an error that is not NotFound;
                                     - the image path is a directory (`look = .dir`): the first pass opens it
                                       read-only and goes on, the read+write open of the SECOND pass fails (EISDIR).
                                   `C16_run_outcome_plain` is the statement with `RunOverlong` alone, under the
                                   extra hypothesis `PlainImages`.
  O2 `C16_error_before_mutation`  fault-free error runs: the tree is untouched when the error arises in validation
                                   or in the first pass; an error of the SECOND pass is possible fault-free
                                   (directory image) and then exactly the shorter images of the entries BEFORE the
                                   first directory image have been zero-extended (`C16_pass2_error_mutates`: a
                                   checked world where the tree has changed).
  O3 `C14_overlong_aborts_any_faults`  ANY fault set: flag on and an over-long (or blocked) image ⇒ error, only `stat`
                                   and read-only opens logged, tree untouched. No hypothesis on validation is needed
                                   (a failing validation is an error as well) and a fault cannot defeat it (a fault
                                   on the read-only open of the over-long image makes the first pass fail anyway).
     `C14_dir_image_errs_any_faults`   the same for a directory image, where only `result = .err` and the form of the
                                   mutations survive.
  O4 `C15_total_is_work`          `total = work.length` always; the records with and without an error / a panic.
-/
import TB.Spec.ExportSpec
import TB.Props.C04c
import TB.Props.C11
import TB.Props.C14
import TB.Props.C15
import TB.Props.C16
import TB.Props.C16run
import TB.Props.C16total
import TB.Props.C04hist
import TB.Lemmas.RunY
namespace TB
open TB.RB

/-- the image path of a non-padding entry has a regular file as a proper prefix (every open of it is `ENOTDIR`) -/
def ImageBlocked (fs : Fs) (e : TEntry) : Prop := e.isPad = false ∧ fs.look e.fullTarget = .notDir

/-- the image path of a non-padding entry is a directory -/
def ImageIsDir (fs : Fs) (e : TEntry) : Prop := e.isPad = false ∧ fs.look e.fullTarget = .dir

/-- some non-padding entry of the table of the run has an image that exists in the initial tree as a regular file
    LONGER than declared (`Overlong`, TB.Props.C14, is the per-entry property; the table `table0 inp` is a function of
    the export argument and the torrents only) -/
def RunOverlong (inp : RunIn) : Prop := ∃ e ∈ table0 inp, Overlong inp.fs e

/-- some non-padding entry's image path has a regular file as a proper prefix in the initial tree -/
def RunBlocked (inp : RunIn) : Prop := ∃ e ∈ table0 inp, ImageBlocked inp.fs e

/-- some non-padding entry's image path is a directory of the initial tree -/
def RunImageDir (inp : RunIn) : Prop := ∃ e ∈ table0 inp, ImageIsDir inp.fs e

/-- no image path is a directory or lies below a regular file (the hypothesis `hlook` of `C14_extend`) -/
def PlainImages (inp : RunIn) : Prop :=
  ∀ e ∈ table0 inp, e.isPad = false → inp.fs.look e.fullTarget ≠ .notDir ∧ inp.fs.look e.fullTarget ≠ .dir

/-- the entries of the table the second pass of the pre-flight processes before it stops: those before the first
    non-padding entry whose image path is a directory or lies below a regular file -/
def entriesBeforeStop (inp : RunIn) : List TEntry := RunY.pre2 inp.fs (table0 inp)

theorem stop1_exists_iff (inp : RunIn) :
    (∃ e ∈ table0 inp, RunY.stop1 inp.fs e = true) ↔ (RunOverlong inp ∨ RunBlocked inp) := by
  simp only [RunY.stop1_iff, RunOverlong, RunBlocked, ImageBlocked, and_or_left, exists_or]

theorem stop2_exists_iff (inp : RunIn) :
    (∃ e ∈ table0 inp, RunY.stop2 inp.fs e = true) ↔ (RunBlocked inp ∨ RunImageDir inp) := by
  simp only [RunY.stop2_iff, RunBlocked, RunImageDir, ImageBlocked, ImageIsDir, and_or_left, exists_or]

/-- `Overlong` is the first of the two ways `RunY.stop1` holds -/
instance (fs : Fs) (e : TEntry) : Decidable (Overlong fs e) :=
  decidable_of_iff (RunY.stop1 fs e = true ∧ fs.look e.fullTarget ≠ .notDir)
    ⟨fun ⟨h, hn⟩ => ((RunY.stop1_iff fs e).1 h).resolve_right (fun hb => hn hb.2),
      fun h => ⟨(RunY.stop1_iff fs e).2 (.inl h), by obtain ⟨_, i, hi, _⟩ := h; rw [hi]; exact Look.noConfusion⟩⟩
instance (inp : RunIn) : Decidable (RunOverlong inp) := by unfold RunOverlong; infer_instance
instance (inp : RunIn) : Decidable (RunBlocked inp) := by unfold RunBlocked ImageBlocked; infer_instance
instance (inp : RunIn) : Decidable (RunImageDir inp) := by unfold RunImageDir ImageIsDir; infer_instance
instance (inp : RunIn) : Decidable (PlainImages inp) := by unfold PlainImages; infer_instance
instance (fs : Fs) (inp : RunIn) : Decidable (ArgsOk fs inp) := by unfold ArgsOk; infer_instance

/-- the first pass without faults, for any table and any state: it never changes the tree, and it fails iff some
    non-padding entry's image is a regular file longer than declared or has a regular file as a proper prefix of its
    path (a missing image is skipped; a DIRECTORY is opened read-only and passed over) -/
theorem C14_pass1_outcome (st : St) (hf : st.faults = []) (table : List TEntry) :
    (resizePass1 st table).1.fs = st.fs ∧
    ((resizePass1 st table).2 = .error ↔ ∃ e ∈ table, Overlong st.fs e ∨ ImageBlocked st.fs e) := by
  refine ⟨(C14_pass1_readonly st table).1, ?_⟩
  rw [RunY.pass1_error_iff table st hf]
  simp only [RunY.stop1_iff, ImageBlocked]

/-- the second pass without faults, for any table and any state: it fails iff some non-padding entry's image path has
    a regular file as a proper prefix or IS A DIRECTORY (the read+write open fails with an error that is not
    NotFound); in either case the tree it leaves is `RunN.step` (zero-extend a shorter regular image to the declared
    length) folded over the entries before the first such entry (all entries if there is none) -/
theorem C14_pass2_outcome (st : St) (hf : st.faults = []) (table : List TEntry) :
    ((resizePass2 st table).2 = .error ↔ ∃ e ∈ table, ImageBlocked st.fs e ∨ ImageIsDir st.fs e) ∧
    (resizePass2 st table).1.fs = (RunY.pre2 st.fs table).foldl RunN.step st.fs := by
  obtain ⟨h1, _, h3, _⟩ := RunY.pass2_spec table st hf
  refine ⟨?_, h3⟩
  rw [h1]
  simp only [RunY.stop2_iff, ImageBlocked, ImageIsDir, and_or_left]

theorem runSt1_fs (inp : RunIn) : (runSt1 inp).fs = inp.fs := (validateAll_spec _ _).1
theorem runSt1_faults (inp : RunIn) : (runSt1 inp).faults = inp.faults := (validateAll_spec _ _).2.1
theorem runSt1_ops (inp : RunIn) : ∀ o ∈ (runSt1 inp).ops, o.kind = .stat := fun o ho =>
  (Ext.mem_ops (validateAll_spec ⟨inp.fs, [], inp.faults⟩ (inp.scan ++ [inp.exportDir])).2.2.1 o ho).resolve_left
    List.not_mem_nil

/-- validation succeeding means the arguments are fine — for ANY fault set -/
theorem valOk_argsOk (inp : RunIn) (h : RB.valOk inp = true) : ArgsOk inp.fs inp :=
  (validateAll_spec ⟨inp.fs, [], inp.faults⟩ (inp.scan ++ [inp.exportDir])).2.2.2 h

theorem valOk_iff (inp : RunIn) (hfa : inp.faults = []) : RB.valOk inp = true ↔ ArgsOk inp.fs inp :=
  ⟨valOk_argsOk inp, fun h => RunI.validateAll_ok ⟨inp.fs, [], inp.faults⟩ _ hfa h⟩

theorem torrents_ne_nil {inp : RunIn} {e : TEntry} (he : e ∈ table0 inp) : inp.torrents ≠ [] := by
  intro h
  simp [table0, h, sortTorrents, dedupTorrents, buildTable] at he

/-- where an error can come from (ANY fault set): validation, or the pre-flight -/
theorem run_err_source (H : Bytes → Bytes) (inp : RunIn) (herr : (run H inp).result = .err) :
    inp.torrents ≠ [] ∧
    (RB.valOk inp = false ∨ (RB.valOk inp = true ∧ inp.resize = true ∧ (RB.fixRes inp).2 = .error)) := by
  have hne : inp.torrents ≠ [] := fun h => by rw [(C16_empty H inp h).1] at herr; cases herr
  rcases run_stages H inp hne with ⟨hv, _⟩ | ⟨hv, hr, hf, _⟩ | ⟨hv, hc, _⟩
  · exact ⟨hne, .inl hv⟩
  · exact ⟨hne, .inr ⟨hv, hr, hf⟩⟩
  · exact absurd herr (RunY.run_past_preflight H inp hne hv hc)

/-- **O1.** The outcome of a fault-free run on a non-empty list of loadable torrents, completely:

    * `.err` iff some scan or export argument is not an absolute path of an existing directory of the initial tree
      (`¬ ArgsOk`), or the resize flag is on and, in the initial tree, some non-padding table entry's image
        - is a regular file longer than declared (`RunOverlong`; error in the first pass), or
        - has a regular file as a proper prefix of its path (`RunBlocked`; `ENOTDIR` in the first pass), or
        - is a directory (`RunImageDir`; `EISDIR` on the read+write open of the SECOND pass);
    * `.ok ()` otherwise;
    * never `.panic`.

    Assumed: `inp.faults = []` (an injected fault in validation or in the pre-flight is an error by itself);
    `inp.torrents ≠ []` (with no torrents the run returns `.ok ()` before it validates anything, `C16_empty`);
    every torrent `Loadable` (only for "never `.panic`", through `C16_run_total`; the first conjunct does not use it).
    Not assumed: `FsWF`, anything about the candidate order, the evaluation order or the hash function.
    The two last disjuncts cannot be dropped: `C16_outcome_needs_image_cases`. -/
theorem C16_run_outcome (H : Bytes → Bytes) (inp : RunIn) (hfa : inp.faults = []) (hne : inp.torrents ≠ [])
    (hload : ∀ t ∈ inp.torrents, Loadable H t) :
    ((run H inp).result = .err ↔
      (¬ ArgsOk inp.fs inp ∨ (inp.resize = true ∧ (RunOverlong inp ∨ RunBlocked inp ∨ RunImageDir inp)))) ∧
    ((run H inp).result = .ok () ↔
      (ArgsOk inp.fs inp ∧ ¬ (inp.resize = true ∧ (RunOverlong inp ∨ RunBlocked inp ∨ RunImageDir inp)))) ∧
    (run H inp).result ≠ .panic := by
  have hnp := C16_run_total H inp hload
  have hstop : (RB.fixRes inp).2 = .error ↔ (RunOverlong inp ∨ RunBlocked inp ∨ RunImageDir inp) := by
    have hfix := (RunY.fix_spec (runSt1 inp) ((runSt1_faults inp).trans hfa) (runTable0 inp)).1
    rw [runSt1_fs] at hfix
    exact hfix.trans ((or_congr (stop1_exists_iff inp) (stop2_exists_iff inp)).trans
      (by simp only [or_assoc, or_self_left]))
  have herr : (run H inp).result = .err ↔
      (¬ ArgsOk inp.fs inp ∨ (inp.resize = true ∧ (RunOverlong inp ∨ RunBlocked inp ∨ RunImageDir inp))) := by
    constructor
    · intro h
      rcases (run_err_source H inp h).2 with hv | ⟨_, hr, hf⟩
      · exact .inl fun ha => by rw [(valOk_iff inp hfa).2 ha] at hv; cases hv
      · exact .inr ⟨hr, hstop.1 hf⟩
    · intro h
      cases hv : RB.valOk inp
      · rw [RunY.run_validate_false H inp hne hv]
      · rcases h with h | ⟨hr, hs⟩
        · exact absurd ((valOk_iff inp hfa).1 hv) h
        · rw [RunY.run_fix_error H inp hne hv hr (hstop.2 hs)]
  -- a result that is not `.panic` is `.ok ()` iff it is not `.err`
  have hok : (run H inp).result = .ok () ↔ ¬ (run H inp).result = .err := by
    cases hr : (run H inp).result with
    | ok u => exact ⟨fun _ h => (nomatch h), fun _ => rfl⟩
    | err => exact ⟨fun h => (nomatch h), fun h => absurd rfl h⟩
    | panic => exact absurd hr hnp
  refine ⟨herr, ?_, hnp⟩
  rw [hok, herr, not_or, Classical.not_not]

/-- **O1 with `RunOverlong` alone.** When no image path is a directory or lies below a regular file (`PlainImages`, the
    extra hypothesis — without it the statement is false, `C16_outcome_needs_image_cases`), a fault-free run on loadable
    torrents ends in `.err` iff an argument is bad or the flag is on and some image is over-long, and in `.ok ()`
    otherwise. -/
theorem C16_run_outcome_plain (H : Bytes → Bytes) (inp : RunIn) (hfa : inp.faults = []) (hne : inp.torrents ≠ [])
    (hload : ∀ t ∈ inp.torrents, Loadable H t) (hplain : PlainImages inp) :
    ((run H inp).result = .err ↔ (¬ ArgsOk inp.fs inp ∨ (inp.resize = true ∧ RunOverlong inp))) ∧
    ((run H inp).result = .ok () ↔ (ArgsOk inp.fs inp ∧ ¬ (inp.resize = true ∧ RunOverlong inp))) ∧
    (run H inp).result ≠ .panic := by
  obtain ⟨h1, h2, h3⟩ := C16_run_outcome H inp hfa hne hload
  have hb : ¬ RunBlocked inp := fun ⟨e, he, hp, hl⟩ => (hplain e he hp).1 hl
  have hd : ¬ RunImageDir inp := fun ⟨e, he, hp, hl⟩ => (hplain e he hp).2 hl
  have : (RunOverlong inp ∨ RunBlocked inp ∨ RunImageDir inp) ↔ RunOverlong inp := by
    simp only [hb, hd, or_false]
  rw [this] at h1 h2
  exact ⟨h1, h2, h3⟩

/-- **O3.** ANY fault set, any hash function, any tree: with the resize flag on, an over-long image (or an image path
    below a regular file) in the INITIAL tree makes the run end in `.err` with nothing but `stat`s and read-only opens
    in its log — hence no mutating operation, and the tree is the initial tree (directly, and as the replay of the
    log); nothing was evaluated.

    No hypothesis on validation: if validation fails under these faults the run ends in `.err` after `stat`s only;
    if it succeeds (`RB.valOk inp = true`, which then implies `ArgsOk`) the first pass of the pre-flight fails — at the
    over-long image, or EARLIER at an injected fault or another obstacle. A fault cannot defeat the clause: a fault
    on the read-only open of the over-long image itself makes the first pass return an error anyway (`resizePass1`:
    a failed open is skipped only if it is NotFound and not injected). `inp.torrents ≠ []` follows from the
    hypothesis (an empty torrent list has an empty table). Compared with `C14_abort` (which has no hypothesis
    on the faults either) it adds the blocked image and the form of the log. -/
theorem C14_overlong_aborts_any_faults (H : Bytes → Bytes) (inp : RunIn) (hres : inp.resize = true)
    (hover : RunOverlong inp ∨ RunBlocked inp) :
    (run H inp).result = .err ∧ (run H inp).fs = inp.fs ∧
    (∀ o ∈ (run H inp).ops, o.kind = .stat ∨ o.kind = .openr) ∧
    (∀ o ∈ (run H inp).ops, o.kind.mutating = false) ∧
    replay inp.fs (run H inp).ops = inp.fs ∧
    (run H inp).counters = [] ∧ (run H inp).total = 0 ∧ (run H inp).setupOps = (run H inp).ops.length := by
  have hne : inp.torrents ≠ [] :=
    hover.elim (fun ⟨_, he, _⟩ => torrents_ne_nil he) (fun ⟨_, he, _⟩ => torrents_ne_nil he)
  have key : (run H inp).result = .err ∧ (run H inp).fs = inp.fs ∧
      (∀ o ∈ (run H inp).ops, o.kind = .stat ∨ o.kind = .openr) ∧
      (run H inp).counters = [] ∧ (run H inp).total = 0 ∧ (run H inp).setupOps = (run H inp).ops.length := by
    cases hv : RB.valOk inp
    · rw [RunY.run_validate_false H inp hne hv]
      exact ⟨rfl, runSt1_fs inp, fun o ho => .inl (runSt1_ops inp o ho), rfl, rfl, rfl⟩
    · have hs1 : ∃ e ∈ runTable0 inp, RunY.stop1 (runSt1 inp).fs e = true := by
        rw [runSt1_fs]; exact (stop1_exists_iff inp).2 hover
      obtain ⟨f1, f2, f3⟩ := RunY.fix_stop1_any (runSt1 inp) (runTable0 inp) hs1
      rw [RunY.run_fix_error H inp hne hv hres f1]
      exact ⟨rfl, f2.trans (runSt1_fs inp), fun o ho => (Ext.mem_ops f3 o ho).imp (runSt1_ops inp o) id, rfl, rfl, rfl⟩
  obtain ⟨k1, k2, k3, k4, k5, k6⟩ := key
  refine ⟨k1, k2, k3, fun o ho => ?_, ?_, k4, k5, k6⟩
  · rcases k3 o ho with h | h <;> (rw [h]; rfl)
  · rw [← C11_replay H inp, k2]

/-- **O2.** A fault-free run that ends in `.err`:

    * if the error comes from argument validation (`¬ ArgsOk`) or from the FIRST pass of the pre-flight (an over-long
      or a blocked image): the tree is untouched, and only `stat`s and read-only opens were logged;
    * otherwise — the arguments are fine, no image is over-long or blocked — the flag is on, some image path is a
      DIRECTORY, and the error arises in the SECOND pass (this is possible fault-free: `C16_pass2_error_mutates`).
      Then the tree is EXACTLY the initial tree with `RunN.step` (zero-extend the image of the entry to the declared
      length if it is a shorter regular file) applied to the entries before the first directory image, in table
      order. In particular (`RunY.Grown`): names, directories and the inode counter are as before; the content of
      every inode is the old content followed by zeros; an inode that changed is the image of one of those entries,
      which declared more than the old length, and its new length is the declared length of such an entry; and the
      only mutating operations logged are successful `set_len`s of those entries to their declared length.

    Assumed: `inp.faults = []`. (`inp.torrents ≠ []` follows from the error.) -/
theorem C16_error_before_mutation (H : Bytes → Bytes) (inp : RunIn) (hfa : inp.faults = [])
    (herr : (run H inp).result = .err) :
    ((¬ ArgsOk inp.fs inp ∨ RunOverlong inp ∨ RunBlocked inp) →
      (run H inp).fs = inp.fs ∧ ∀ o ∈ (run H inp).ops, o.kind = .stat ∨ o.kind = .openr) ∧
    ((ArgsOk inp.fs inp ∧ ¬ RunOverlong inp ∧ ¬ RunBlocked inp) →
      inp.resize = true ∧ RunImageDir inp ∧
      (run H inp).fs = (entriesBeforeStop inp).foldl RunN.step inp.fs ∧
      RunY.Grown inp.fs (entriesBeforeStop inp) (run H inp).fs ∧
      ∀ o ∈ (run H inp).ops, o.kind.mutating = true →
        ∃ e ∈ entriesBeforeStop inp, e.isPad = false ∧ o = ⟨.setlen e.fileLength, e.fullTarget, true⟩) := by
  obtain ⟨hne, hsrc⟩ := run_err_source H inp herr
  constructor
  · intro hcase
    rcases hsrc with hv | ⟨hv, hr, _⟩
    · rw [RunY.run_validate_false H inp hne hv]
      exact ⟨runSt1_fs inp, fun o ho => .inl (runSt1_ops inp o ho)⟩
    · rcases hcase with h | h
      · exact absurd (valOk_argsOk inp hv) h
      · obtain ⟨_, h2, h3, _⟩ := C14_overlong_aborts_any_faults H inp hr h
        exact ⟨h2, h3⟩
  · rintro ⟨ha, hno, hnb⟩
    rcases hsrc with hv | ⟨hv, hr, hf⟩
    · rw [(valOk_iff inp hfa).2 ha] at hv; cases hv
    · obtain ⟨g1, g2⟩ := RunY.fix_spec (runSt1 inp) ((runSt1_faults inp).trans hfa) (runTable0 inp)
      rw [runSt1_fs] at g1 g2
      have hns1 : ¬ ∃ e ∈ runTable0 inp, RunY.stop1 inp.fs e = true :=
        fun h => ((stop1_exists_iff inp).1 h).elim hno hnb
      obtain ⟨k1, _, k3⟩ := g2 hns1
      have hdir : RunImageDir inp :=
        ((stop2_exists_iff inp).1 ((g1.1 hf).resolve_left hns1)).resolve_left hnb
      have hfs : (run H inp).fs = (entriesBeforeStop inp).foldl RunN.step inp.fs := by
        rw [RunY.run_fix_error H inp hne hv hr hf]; exact k1
      refine ⟨hr, hdir, hfs, by rw [hfs]; exact RunY.foldl_step_grown _ _, ?_⟩
      rw [RunY.run_fix_error H inp hne hv hr hf]
      intro o ho hm
      rcases Ext.mem_ops k3 o ho with h | h | ⟨e, _, ⟨hp, hpath, hk⟩, hor⟩
      · rw [runSt1_ops inp o h] at hm; cases hm
      · rw [h] at hm; cases hm
      · rcases hk with hk | ⟨hk, hok⟩
        · rw [hk] at hm; cases hm
        · rcases hor with h | h
          · rw [h] at hk; cases hk
          · refine ⟨e, h, hp, ?_⟩
            cases o
            simp only at hk hok hpath
            rw [hk, hok, hpath]

/-- **O2, uniformly.** Whatever the stage at which a fault-free run fails, the tree it leaves has the names, the
    directories and the inode counter of the initial tree, and every inode's content is the old content followed by
    zeros (none in the first case of `C16_error_before_mutation`). -/
theorem C16_error_tree_frame (H : Bytes → Bytes) (inp : RunIn) (hfa : inp.faults = [])
    (herr : (run H inp).result = .err) : RunY.Grown inp.fs (table0 inp) (run H inp).fs := by
  obtain ⟨h1, h2⟩ := C16_error_before_mutation H inp hfa herr
  by_cases hc : ¬ ArgsOk inp.fs inp ∨ RunOverlong inp ∨ RunBlocked inp
  · rw [(h1 hc).1]
    exact RunY.Grown.refl _ _
  · rw [not_or, not_or, Classical.not_not] at hc
    exact (h2 hc).2.2.2.1.mono (RunY.pre2_sub _ _)

/-- **O3, directory image.** ANY fault set: with the flag on, an image path that is a directory in the initial tree
    makes the run end in `.err` as well (validation, the first pass or the second pass fails — the second at the latest
    at the read+write open of that path). Here the tree need NOT be untouched (`C16_pass2_error_mutates`), but every
    mutating operation of the log is a `set_len` of a non-padding table entry's image to its declared length. -/
theorem C14_dir_image_errs_any_faults (H : Bytes → Bytes) (inp : RunIn) (hres : inp.resize = true)
    (hdir : RunImageDir inp) :
    (run H inp).result = .err ∧
    ∀ o ∈ (run H inp).ops, o.kind.mutating = true →
      ∃ e ∈ table0 inp, e.isPad = false ∧ o.path = e.fullTarget ∧ o.kind = .setlen e.fileLength := by
  have hne : inp.torrents ≠ [] := have ⟨_, he, _⟩ := hdir; torrents_ne_nil he
  cases hv : RB.valOk inp
  · rw [RunY.run_validate_false H inp hne hv]
    refine ⟨rfl, fun o ho hm => ?_⟩
    rw [runSt1_ops inp o ho] at hm; cases hm
  · have hs2 : ∃ e ∈ runTable0 inp, RunY.stop2 (runSt1 inp).fs e = true := by
      rw [runSt1_fs]; exact (stop2_exists_iff inp).2 (.inr hdir)
    have hf := RunY.fix_detects (runSt1 inp) (runTable0 inp) (.inr hs2)
    rw [RunY.run_fix_error H inp hne hv hres hf]
    refine ⟨rfl, fun o ho hm => ?_⟩
    rcases (fixExportFileLengths_trace (runSt1 inp) (runTable0 inp)).ext.mem_ops o ho
      with h | h | h | ⟨e, he, hp, hk | hk, hpath⟩
    · rw [runSt1_ops inp o h] at hm; cases hm
    · rw [h] at hm; cases hm
    · rw [h] at hm; cases hm
    · rw [hk] at hm; cases hm
    · exact ⟨e, he, hp, hpath, hk⟩

/-- **O4.** `total` is the number of work items, always (both are `0` for a run without torrents, for a run that
    ends in `.err`, and for the panic of `convert_pieces_to_work`). The progress records: never more than `total`;
    the `k`-th sums to `k + 1` in every run; a run that returns `.ok ()` has exactly `total` of them (this much is
    `C15_run`); a run that ends in `.err` has none, and `total = 0`, `work = []`; a run that ends in `.panic` has
    strictly fewer than `total` (the panic of a piece: the records stop there) or none at all with `total = 0` (the
    panic of `convert_pieces_to_work`). No hypothesis. -/
theorem C15_total_is_work (H : Bytes → Bytes) (inp : RunIn) :
    (run H inp).total = (run H inp).work.length ∧
    (run H inp).counters.length ≤ (run H inp).total ∧
    (∀ k (hk : k < (run H inp).counters.length),
      ((run H inp).counters[k]).success + ((run H inp).counters[k]).failed + ((run H inp).counters[k]).fault = k + 1) ∧
    ((run H inp).result = .ok () → (run H inp).counters.length = (run H inp).total) ∧
    ((run H inp).result = .err → (run H inp).total = 0 ∧ (run H inp).counters = [] ∧ (run H inp).work = []) ∧
    ((run H inp).result = .panic →
      (run H inp).counters.length < (run H inp).total ∨ ((run H inp).total = 0 ∧ (run H inp).counters = [])) := by
  rcases RunY.run_book H inp with ⟨h1, h2, h3⟩ | ⟨st, ordered, h1, h2, h3, h4⟩
  · rw [h1, h2, h3]
    exact ⟨rfl, Nat.le_refl _, fun k hk => absurd hk (by simp), fun _ => rfl, fun _ => ⟨rfl, rfl, rfl⟩,
      fun _ => .inr ⟨rfl, rfl⟩⟩
  · obtain ⟨recs, r1, r2, r3, r4⟩ := RunY.solveAll_records H st ordered ⟨0, 0, 0⟩ []
    rw [List.nil_append, ← h4] at r1
    rw [h3, r1, h2, ← h1]
    have hsum : ∀ k (hk : k < recs.length), recs[k].success + recs[k].failed + recs[k].fault = k + 1 :=
      fun k hk => (r4 k hk).trans (Nat.zero_add _)
    cases hp : (solveAll H st ordered ⟨0, 0, 0⟩ []).2.2
    · have hl := r2 hp
      exact ⟨rfl, Nat.le_of_eq hl, hsum, fun _ => hl, fun he => (nomatch he), fun he => (nomatch he)⟩
    · have hl := r3 hp
      exact ⟨rfl, Nat.le_of_lt hl, hsum, fun he => (nomatch he), fun he => (nomatch he), fun _ => .inl hl⟩

/-! ## checked worlds (`H = id`)

  One loadable multi-file torrent: name `n`, files `a` (2 bytes) and `b` (1 byte), piece length 4, one piece. With
  `H = id` the info-hash is the encoding of the info value; `Loadable` by `Loadable.of_info`. The table
  has two entries, `e/<hex>/Data/n/a` (declared 2) and `e/<hex>/Data/n/b` (declared 1). Scan directory `s`, export
  directory `e`, no faults. The worlds differ in the tree, the arguments and the flag:

    `inpOk`      empty export directory, flag on                                  → `.ok ()`
    `inpBadArg`  the export argument names a missing directory                    → `.err`  (validation)
    `inpRel`     the scan argument is relative                                    → `.err`  (validation, no `stat` at all)
    `inpOver`    the image of `a` is a regular file of 3 bytes, flag on           → `.err`  (first pass)
    `inpOverOff` the same tree, flag off                                          → `.ok ()`
    `inpBlocked` `e/<hex>` is a regular file, flag on                             → `.err`  (first pass, ENOTDIR)
    `inpDir`     the image of `a` is `[1]` (short), the image of `b` is a DIRECTORY, flag on
                                                                                  → `.err`  (second pass), `a` is now `[1, 0]`
    `inpOverF`   `inpOver` with a fault on the read-only open of the over-long image → `.err` all the same -/

namespace OutcomeEx

def fileA : BVal := .dict [(kLength, .int 2), (kPath, .list [.str [97]])]
def fileB : BVal := .dict [(kLength, .int 1), (kPath, .list [.str [98]])]
def infod : List (Bytes × BVal) :=
  [(kFiles, .list [fileA, fileB]), (kName, .str [110]), (kPieceLength, .int 4), (kPieces, .str (List.replicate 20 7))]
def root : BVal := .dict [(kInfo, .dict infod)]
def info : Info := ⟨[110], none, some [⟨2, [[97]]⟩, ⟨1, [[98]]⟩], 4, [List.replicate 20 7]⟩
def tor : Torrent := ⟨info, encode (.dict infod)⟩
def eDir : Path := [[101]]
def sDir : Path := [[115]]
def hxDir : Path := eDir ++ [hex tor.infoHash]
def dataDir : Path := hxDir ++ [sData]
def nDir : Path := dataDir ++ [[110]]
def imgA : Path := nDir ++ [[97]]
def imgB : Path := nDir ++ [[98]]

def fsEmpty : Fs := { files := [], dirs := [eDir, sDir], data := [], next := 0 }
def fsOver : Fs :=
  { files := [(imgA, 0)], dirs := [eDir, sDir, hxDir, dataDir, nDir], data := [(0, [1, 2, 3])], next := 1 }
def fsBlocked : Fs := { files := [(hxDir, 0)], dirs := [eDir, sDir], data := [(0, [])], next := 1 }
def fsDir : Fs :=
  { files := [(imgA, 0)], dirs := [eDir, sDir, hxDir, dataDir, nDir, imgB], data := [(0, [1])], next := 1 }

def inpOk : RunIn :=
  { fs := fsEmpty, torrents := [tor], scan := [⟨true, sDir⟩], exportDir := ⟨true, eDir⟩, resize := true,
    searchObs := [], order := [], faults := [] }
def inpBadArg : RunIn := { inpOk with exportDir := ⟨true, [[120]]⟩ }
def inpRel : RunIn := { inpOk with scan := [⟨false, sDir⟩] }
def inpOver : RunIn := { inpOk with fs := fsOver }
def inpOverOff : RunIn := { inpOver with resize := false }
def inpBlocked : RunIn := { inpOk with fs := fsBlocked }
def inpDir : RunIn := { inpOk with fs := fsDir }
def inpOverF : RunIn := { inpOver with faults := [2] }

/-! Every fact below is found by evaluation, and most of the kernel's work on any of them is common to all (the
    info-hash `encode (.dict infod)`, which every image path contains; the table), but shared inside one declaration
    only: the facts about the three outcomes of O1 are evaluated together, and so are those about the two further error
    sources. -/

/-- the two checks of `Loadable.of_info`; the worlds on the empty export directory and on the tree with the over-long
    image of `a` -/
theorem evaluatedO1 :
    (canon root = true ∧ specInfo infod = some info) ∧
    ((table0 inpOk).map (fun e => (e.fullTarget, e.fileLength, e.isPad)) = [(imgA, 2, false), (imgB, 1, false)] ∧
      (ArgsOk inpOk.fs inpOk ∧ inpOk.resize = true ∧ ¬ RunOverlong inpOk ∧ ¬ RunBlocked inpOk ∧ ¬ RunImageDir inpOk) ∧
      (run id inpOk).result = .ok () ∧
      ((run id inpOk).total = 1 ∧ (run id inpOk).work.length = 1 ∧ (run id inpOk).counters = [⟨0, 1, 0⟩])) ∧
    (¬ ArgsOk inpBadArg.fs inpBadArg ∧
      ((run id inpBadArg).result = .err ∧ (run id inpBadArg).ops.map (·.kind) = [.stat, .stat]) ∧
      ¬ ArgsOk inpRel.fs inpRel ∧
      ((run id inpRel).result = .err ∧ (run id inpRel).ops = [])) ∧
    (ArgsOk inpOver.fs inpOver ∧ RunOverlong inpOver ∧ ¬ RunBlocked inpOver ∧ ¬ RunImageDir inpOver) ∧
    ((run id inpOver).result = .err ∧ (run id inpOver).fs = inpOver.fs ∧
      (run id inpOver).ops.map (fun o => (o.kind, o.ok)) = [(.stat, true), (.stat, true), (.openr, true)]) ∧
    ((run id inpOverF).result = .err ∧ (run id inpOverF).fs = inpOverF.fs ∧
      (run id inpOverF).ops.map (fun o => (o.kind, o.ok)) = [(.stat, true), (.stat, true), (.openr, false)]) := by
  decide +kernel

/-- the document `encode root` loads as `tor` -/
theorem loadable : Loadable id tor := Loadable.of_info evaluatedO1.1.1 evaluatedO1.1.2

theorem loadable_all : ∀ t ∈ [tor], Loadable id t := List.forall_mem_singleton.2 loadable

/-- the table of all these runs (it does not depend on the tree) -/
example : (table0 inpOk).map (fun e => (e.fullTarget, e.fileLength, e.isPad)) = [(imgA, 2, false), (imgB, 1, false)] :=
  evaluatedO1.2.1.1

/-! ### non-vacuity of O1: the three outcomes -/

/-- `.ok ()`: the hypotheses of `C16_run_outcome` hold, the arguments are fine, nothing stops the pre-flight -/
example : ArgsOk inpOk.fs inpOk ∧ inpOk.resize = true ∧ ¬ RunOverlong inpOk ∧ ¬ RunBlocked inpOk ∧ ¬ RunImageDir inpOk :=
  evaluatedO1.2.1.2.1
example : (run id inpOk).result = .ok () :=
  have ⟨ha, _, ho, hb, hd⟩ := evaluatedO1.2.1.2.1
  (C16_run_outcome id inpOk rfl (by decide) loadable_all).2.1.2 ⟨ha, fun h => h.2.elim ho (fun h => h.elim hb hd)⟩
example : (run id inpOk).result = .ok () := evaluatedO1.2.1.2.2.1

/-- `.err` by a bad argument: the export directory does not exist; a scan argument is relative -/
example : ¬ ArgsOk inpBadArg.fs inpBadArg := evaluatedO1.2.2.1.1
example : (run id inpBadArg).result = .err :=
  (C16_run_outcome id inpBadArg rfl (by decide) loadable_all).1.2 (.inl evaluatedO1.2.2.1.1)
example : (run id inpBadArg).result = .err ∧ (run id inpBadArg).ops.map (·.kind) = [.stat, .stat] :=
  evaluatedO1.2.2.1.2.1
example : (run id inpRel).result = .err :=
  (C16_run_outcome id inpRel rfl (by decide) loadable_all).1.2 (.inl evaluatedO1.2.2.1.2.2.1)
example : (run id inpRel).result = .err ∧ (run id inpRel).ops = [] := evaluatedO1.2.2.1.2.2.2

/-- `.err` by an over-long image (arguments fine, flag on); with the flag off the same world gives `.ok ()` -/
example : ArgsOk inpOver.fs inpOver ∧ RunOverlong inpOver ∧ ¬ RunBlocked inpOver ∧ ¬ RunImageDir inpOver :=
  evaluatedO1.2.2.2.1
example : (run id inpOver).result = .err :=
  (C16_run_outcome id inpOver rfl (by decide) loadable_all).1.2 (.inr ⟨rfl, .inl evaluatedO1.2.2.2.1.2.1⟩)
example : (run id inpOver).result = .err ∧ (run id inpOver).fs = inpOver.fs ∧
    (run id inpOver).ops.map (fun o => (o.kind, o.ok)) = [(.stat, true), (.stat, true), (.openr, true)] :=
  evaluatedO1.2.2.2.2.1
example : (run id inpOverOff).result = .ok () :=
  (C16_run_outcome id inpOverOff rfl (by decide) loadable_all).2.1.2 ⟨evaluatedO1.2.2.2.1.1, fun h => nomatch h.1⟩

/-! ### the two further error sources of the pre-flight -/

/-- the world whose `e/<hex>` is a regular file: the error arises at the first read-only open of the first pass;
    nothing is modified. The world whose image of `b` is a directory: the first pass goes through (both opens succeed,
    the directory is opened read-only); the second pass extends the image of `a` from `[1]` to `[1, 0]` and then fails
    on the read+write open of the directory -/
theorem evaluatedStops :
    ((ArgsOk inpBlocked.fs inpBlocked ∧ ¬ RunOverlong inpBlocked ∧ RunBlocked inpBlocked ∧ ¬ RunImageDir inpBlocked) ∧
      (run id inpBlocked).result = .err ∧
      ((run id inpBlocked).fs = inpBlocked.fs ∧
        (run id inpBlocked).ops.map (fun o => (o.kind, o.ok)) = [(.stat, true), (.stat, true), (.openr, false)])) ∧
    (ArgsOk inpDir.fs inpDir ∧ ¬ RunOverlong inpDir ∧ ¬ RunBlocked inpDir ∧ RunImageDir inpDir) ∧
    (run id inpDir).result = .err ∧
    (run id inpDir).ops.map (fun o => (o.kind, o.path, o.ok)) =
      [(.stat, sDir, true), (.stat, eDir, true), (.openr, imgA, true), (.openr, imgB, true),
       (.openrw, imgA, true), (.setlen 2, imgA, true), (.openrw, imgB, false)] ∧
    (inpDir.fs.data = [(0, [1])] ∧ (run id inpDir).fs.data = [(0, [1, 0])]) ∧
    (entriesBeforeStop inpDir).map (·.fullTarget) = [imgA] := by decide +kernel

/-- the error arises at the first read-only open of the first pass; nothing is modified -/
example : (run id inpBlocked).fs = inpBlocked.fs ∧
    (run id inpBlocked).ops.map (fun o => (o.kind, o.ok)) = [(.stat, true), (.stat, true), (.openr, false)] :=
  evaluatedStops.1.2.2

theorem dir_facts : ArgsOk inpDir.fs inpDir ∧ ¬ RunOverlong inpDir ∧ ¬ RunBlocked inpDir ∧ RunImageDir inpDir :=
  evaluatedStops.2.1
theorem dir_log : (run id inpDir).ops.map (fun o => (o.kind, o.path, o.ok)) =
    [(.stat, sDir, true), (.stat, eDir, true), (.openr, imgA, true), (.openr, imgB, true),
     (.openrw, imgA, true), (.setlen 2, imgA, true), (.openrw, imgB, false)] := evaluatedStops.2.2.2.1
/-- O2 on this world: the entries before the stop are the entry of `a` alone -/
example : (entriesBeforeStop inpDir).map (·.fullTarget) = [imgA] := evaluatedStops.2.2.2.2.2
example : (run id inpDir).fs = (entriesBeforeStop inpDir).foldl RunN.step inpDir.fs :=
  ((C16_error_before_mutation id inpDir rfl evaluatedStops.2.2.1).2 ⟨dir_facts.1, dir_facts.2.1, dir_facts.2.2.1⟩).2.2.1

/-! ### O3 under a fault on the open of the over-long image itself -/

/-- operation 2 (the read-only open of the over-long image) fails by injection: the first pass returns an error anyway -/
example : (run id inpOverF).result = .err ∧ (run id inpOverF).fs = inpOverF.fs ∧
    (run id inpOverF).ops.map (fun o => (o.kind, o.ok)) = [(.stat, true), (.stat, true), (.openr, false)] :=
  evaluatedO1.2.2.2.2.2
example : (run id inpOverF).result = .err :=
  (C14_overlong_aborts_any_faults id inpOverF rfl (.inl evaluatedO1.2.2.2.1.2.1)).1

/-! ### O4 on the world `inpOk`: one piece, not found -/
example : (run id inpOk).total = 1 ∧ (run id inpOk).work.length = 1 ∧ (run id inpOk).counters = [⟨0, 1, 0⟩] :=
  evaluatedO1.2.1.2.2.2

end OutcomeEx

/-- **The statement of O1 with `RunOverlong` alone is false**: in the world `OutcomeEx.inpBlocked` (`e/<hex>` is a regular
    file) every hypothesis holds, the arguments are fine and no image is over-long, yet the run ends in `.err`. (The
    world `OutcomeEx.inpDir` refutes it as well: `OutcomeEx.evaluatedStops`.) -/
theorem C16_outcome_needs_image_cases :
    ¬ (∀ (H : Bytes → Bytes) (inp : RunIn), inp.faults = [] → inp.torrents ≠ [] →
        (∀ t ∈ inp.torrents, Loadable H t) →
        ((run H inp).result = .err ↔ (¬ ArgsOk inp.fs inp ∨ (inp.resize = true ∧ RunOverlong inp)))) := by
  intro h
  obtain ⟨⟨ha, hno, _⟩, herr, _⟩ := OutcomeEx.evaluatedStops.1
  exact ((h id OutcomeEx.inpBlocked rfl (by decide) OutcomeEx.loadable_all).1 herr).elim (· ha) (hno ·.2)

/-- **"An error means nothing was modified" is false for the second pass, even without faults**: in the world
    `OutcomeEx.inpDir` (loadable torrent, arguments fine, no fault) the run ends in `.err` after it has zero-extended the
    image of `a`. -/
theorem C16_pass2_error_mutates :
    ¬ (∀ (H : Bytes → Bytes) (inp : RunIn), inp.faults = [] → (∀ t ∈ inp.torrents, Loadable H t) →
        (run H inp).result = .err → (run H inp).fs = inp.fs) := by
  intro h
  have h2 := OutcomeEx.evaluatedStops.2.2.2.2.1
  rw [h id OutcomeEx.inpDir rfl OutcomeEx.loadable_all OutcomeEx.evaluatedStops.2.2.1] at h2
  exact absurd (h2.1.symm.trans h2.2) (by decide)


end TB
